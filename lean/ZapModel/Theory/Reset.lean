/-
  ZapModel.Theory.Reset: a reusable Go slice as (backing array, length), the ways a `Reset()`
  treats it (`ResetKind`), and what a later "re-slice within capacity, then read" can observe.

  Elements are natural numbers, 0 being the zero value (false / nil / 0 / empty element).
  `data.length` is the capacity.  Go only lets a program read or write below `len`; `x[:n]` with
  `n <= cap` changes `len` and nothing else - which is how content beyond `len` survives.
-/
import ZapModel.Gen.FactsTypes

namespace Zap.Theory.Reset
open Zap.Gen

structure Slice where
  data : List Nat := []
  len : Nat := 0
  deriving Repr, DecidableEq, Inhabited

/-- `make([]T, n)` -/
def Slice.fresh (n : Nat) : Slice := ⟨List.replicate n 0, n⟩

/-- `x[i] = v` (out of range: panic, modelled as no-op) -/
def Slice.write (s : Slice) (i v : Nat) : Slice :=
  if i < s.len then { s with data := s.data.set i v } else s

/-- `x[i]` (out of range: panic, modelled as 0) -/
def Slice.read (s : Slice) (i : Nat) : Nat := if i < s.len then s.data.getD i 0 else 0

/-- `if cap(x) >= n { x = x[:n] } else { x = make([]T, n) }` - the idiom of `realloc` and
    `SetChunkSize`. -/
def Slice.reslice (s : Slice) (n : Nat) : Slice :=
  if n ≤ s.data.length then { s with len := n } else Slice.fresh n

/-- `x = append(x, v)` within capacity overwrites the slot, else reallocates. -/
def Slice.append (s : Slice) (v : Nat) : Slice :=
  if s.len < s.data.length then ⟨s.data.set s.len v, s.len + 1⟩
  else ⟨s.data.take s.len ++ [v], s.len + 1⟩

/-- `for i := range x { x[i] = zero }` (over `len`, as Go's `range` does). -/
def zeroPrefix : Nat → List Nat → List Nat
  | 0, l => l
  | _ + 1, [] => []
  | n + 1, _ :: l => 0 :: zeroPrefix n l

/-- The effect of each reset kind on a slice-like field. -/
def applyReset : ResetKind → Slice → Slice
  | .setNil, _ => ⟨[], 0⟩
  | .truncate, s => { s with len := 0 }
  | .zeroThenTruncate, s => ⟨zeroPrefix s.len s.data, 0⟩
  | .clearEachThenTruncate, s => ⟨zeroPrefix s.len s.data, 0⟩
  | .deleteAllKeys, _ => ⟨[], 0⟩        -- an emptied map has no hidden capacity content
  | .bufferReset, s => { s with len := 0 }  -- bytes.Buffer: see `bufferReset` note in C10.lean
  | .scalarZero, _ => ⟨[], 0⟩
  | .notReset, s => s

/-- Kinds after which no earlier content can be observed through the field, whatever happens
    next (proved in `ZapProofs.Theory.Reset`, for slices all of whose hidden capacity is zero -
    `TailZero` - which every slice built by make / write / append / grow is). -/
def leavesNoStale : ResetKind → Bool
  | .setNil | .zeroThenTruncate | .clearEachThenTruncate | .deleteAllKeys | .scalarZero => true
  | .bufferReset => true
  | .truncate | .notReset => false

/-- Everything beyond `len` is zero. -/
def TailZero (s : Slice) : Prop := ∀ i, s.len ≤ i → s.data.getD i 0 = 0

/-- Everything is zero. -/
def AllZero (s : Slice) : Prop := ∀ i, s.data.getD i 0 = 0

/-- Operations of a build on one slice field. -/
inductive SOp
  | write (i v : Nat)
  | append (v : Nat)
  | grow (n : Nat)      -- reslice to n >= len (or reallocate)
  deriving Repr, DecidableEq

def SOp.apply (s : Slice) : SOp → Slice
  | .write i v => s.write i v
  | .append v => s.append v
  | .grow n => if s.len ≤ n then s.reslice n else s

def runOps (s : Slice) (ops : List SOp) : Slice := ops.foldl SOp.apply s

/-! ### The decidable side condition on extracted reset facts -/

/-- `ResetSafe`: every field's reset kind leaves nothing stale, except `truncate` fields on the
    first allow-list and `notReset` fields on the second. -/
def ResetSafe (facts : List ResetFact) (allowTruncate allowNotReset : List (String × String)) :
    Bool :=
  facts.all fun f =>
    match f.kind with
    | .truncate => allowTruncate.contains (f.struct, f.field)
    | .notReset => allowNotReset.contains (f.struct, f.field)
    | k => leavesNoStale k

/-- Completeness: the facts are exactly one per declared field, in declaration order. -/
def Complete (fields : List (String × List String)) (facts : List ResetFact) : Bool :=
  (facts.map fun f => (f.struct, f.field))
    == (fields.map fun p => p.2.map fun fld => (p.1, fld)).flatten

end Zap.Theory.Reset
