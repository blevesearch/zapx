/-
  ZapProofs.Vec.Cache: cache histories (C16): the invariant of reachable states of the
  instrumented cache `VecSearch.HCache`, the plain `VCache` it simulates, and - with the complete
  id table - what entries and handles hold.
-/
import ZapModel.VecSearch
import ZapProofs.Vec.Basic

namespace Zap.VecL
open Zap.VecSearch

/-- every fact about reachable states is proved by this induction.  `R s es`: a fact about a
    state and the events still to come; an invariant ignores `es`, a simulation is
    `R s es := es.foldl st (f s) = c`. -/
theorem run_induction (S : Setup) (R : HCache → List Ev → Prop)
    (hstep : ∀ s e es, R s (e :: es) → s.legal e = true → R (s.step S e) es) :
    ∀ (evs : List Ev) (s s' : HCache), R s evs → run S s evs = some s' → R s' [] := by
  intro evs
  induction evs with
  | nil =>
    intro s s' hr h
    simp only [run, Option.some.injEq] at h
    exact h ▸ hr
  | cons e es ih =>
    intro s s' hr h
    simp only [run] at h
    split at h
    · rename_i hl
      exact ih _ _ (hstep s e es hr hl) h
    · cases h

theorem tickLegal_iff (s : HCache) (ev : List Name) :
    s.toVCache.tickLegal ev = true ↔ ∀ f ∈ ev, ∃ e ∈ s.entries, e.field = f ∧ e.refs ≤ 0 := by
  simp only [VCache.tickLegal, HCache.toVCache, List.all_eq_true, List.any_eq_true, List.mem_map,
    Bool.and_eq_true, decide_eq_true_eq]
  constructor
  · intro h f hf
    obtain ⟨x, ⟨e, he, rfl⟩, h1, h2⟩ := h f hf
    exact ⟨e, he, h1, h2⟩
  · intro h f hf
    obtain ⟨e, he, h1, h2⟩ := h f hf
    exact ⟨_, ⟨e, he, rfl⟩, h1, h2⟩

theorem openHandles_pos (s : HCache) (h : Handle) (hh : h ∈ s.handles) : 0 < s.openHandles h.field :=
  List.length_pos_of_mem (List.mem_filter.2 ⟨hh, decide_eq_true rfl⟩)

/-- `g` changes nothing but `refs` -/
structure Keeps (g : IEntry → IEntry) : Prop where
  field : ∀ e, (g e).field = e.field
  gen : ∀ e, (g e).gen = e.gen
  vmap : ∀ e, (g e).vmap = e.vmap

/-- the shape the model writes literally in `open` (hit) and `closeHandle` -/
theorem keeps_setRefs (f : Name) (r : IEntry → Int) :
    Keeps (fun e => if e.field = f then { e with refs := r e } else e) := by
  constructor
  · intro e
    split <;> rfl
  · intro e
    split <;> rfl
  · intro e
    split <;> rfl

theorem refs_push (hs : List Handle) (h0 : Handle) (e : IEntry)
    (h : e.refs = ((hs.filter (fun h => h.field = e.field)).length : Int)) :
    (if e.field = h0.field then { e with refs := e.refs + 1 } else e).refs =
      (((hs ++ [h0]).filter (fun h => h.field = e.field)).length : Int) := by
  rw [length_filter_push]
  by_cases hf : e.field = h0.field
  · rw [if_pos hf, if_pos (decide_eq_true hf.symm), Int.natCast_add, ← h]
    rfl
  · rw [if_neg hf, if_neg (by simpa using Ne.symm hf), Nat.add_zero]
    exact h

theorem refs_erase (hs : List Handle) (h0 : Handle) (hh : h0 ∈ hs) (e : IEntry)
    (h : e.refs = ((hs.filter (fun h => h.field = e.field)).length : Int)) :
    (if e.field = h0.field then { e with refs := e.refs - 1 } else e).refs =
      (((hs.erase h0).filter (fun h => h.field = e.field)).length : Int) := by
  rw [← length_filter_erase _ hs h0 hh] at h
  by_cases hf : e.field = h0.field
  · rw [if_pos (decide_eq_true hf.symm), Int.natCast_add] at h
    rw [if_pos hf]
    show e.refs - 1 = _
    rw [h]
    exact Int.add_sub_cancel _ _
  · rw [if_neg (by simpa using Ne.symm hf), Nat.add_zero] at h
    rw [if_neg hf]
    exact h

structure Inv (s : HCache) : Prop where
  fieldsNodup : (s.entries.map (·.field)).Nodup
  refsEq : ∀ e ∈ s.entries, e.refs = (s.openHandles e.field : Int)
  handleEntry : s.closed = false → ∀ h ∈ s.handles,
    ∃ e ∈ s.entries, e.field = h.field ∧ e.gen = h.gen ∧ e.vmap = h.vmap
  closedEmpty : s.closed = true → s.entries = []
  gens : (s.released ++ s.entries.map (·.gen)).Perm (List.range s.created)

theorem Inv.allNodup {s : HCache} (hi : Inv s) : (s.released ++ s.entries.map (·.gen)).Nodup :=
  hi.gens.nodup_iff.2 List.nodup_range

theorem Inv.lt_created_iff {s : HCache} (hi : Inv s) (g : Nat) :
    g < s.created ↔ g ∈ s.released ∨ g ∈ s.entries.map (·.gen) := by
  rw [← List.mem_range, ← hi.gens.mem_iff, List.mem_append]

theorem Inv.count {s : HCache} (hi : Inv s) :
    s.created = s.released.length + s.entries.length := by
  simpa using hi.gens.length_eq.symm

theorem Inv.not_both {s : HCache} (hi : Inv s) (g : Nat) :
    ¬ (g ∈ s.released ∧ g ∈ s.entries.map (·.gen)) :=
  fun ⟨h1, h2⟩ => (List.nodup_append.1 hi.allNodup).2.2 g h1 g h2 rfl

theorem Inv.gen_inj {s : HCache} (hi : Inv s) {a b : IEntry} (ha : a ∈ s.entries)
    (hb : b ∈ s.entries) (hab : a.gen = b.gen) : a = b :=
  List.inj_on_of_nodup_map (List.nodup_append.1 hi.allNodup).2.1 ha hb hab

theorem Inv.open_of_entry {s : HCache} (hi : Inv s) {e : IEntry} (he : e ∈ s.entries) :
    s.closed = false := by
  cases hc : s.closed with
  | false => rfl
  | true =>
    rw [hi.closedEmpty hc] at he
    cases he

theorem inv_init : Inv {} := by
  constructor <;> simp [HCache.openHandles]

/-- entries mapped by a `refs`-only change, handles replaced: what is left to show -/
theorem inv_remap (s : HCache) (g : IEntry → IEntry) (hs : List Handle) (hi : Inv s) (hg : Keeps g)
    (hrefs : ∀ e ∈ s.entries, (g e).refs = ((hs.filter (fun h => h.field = e.field)).length : Int))
    (hhand : s.closed = false → ∀ h ∈ hs,
      ∃ e ∈ s.entries, e.field = h.field ∧ e.gen = h.gen ∧ e.vmap = h.vmap) :
    Inv { s with entries := s.entries.map g, handles := hs } := by
  constructor
  · rw [map_map_of_proj (·.field) g hg.field]
    exact hi.fieldsNodup
  · intro e' he'
    obtain ⟨e, he, rfl⟩ := List.mem_map.1 he'
    simp only [HCache.openHandles, hg.field]
    exact hrefs e he
  · intro hc h hh
    obtain ⟨e, he, h1, h2, h3⟩ := hhand hc h hh
    exact ⟨g e, List.mem_map_of_mem he, (hg.field e).trans h1, (hg.gen e).trans h2,
      (hg.vmap e).trans h3⟩
  · intro hc
    simp only [hi.closedEmpty hc, List.map_nil]
  · rw [map_map_of_proj (·.gen) g hg.gen]
    exact hi.gens

theorem inv_open (S : Setup) (s : HCache) (f : Name) (ex : List Nat) (hi : Inv s)
    (hl : s.closed = false) : Inv (s.open S f ex) := by
  unfold HCache.open
  split
  · rename_i e0 hfind
    have he0 : e0 ∈ s.entries := List.mem_of_find?_eq_some hfind
    have he0f : e0.field = f := by simpa using List.find?_some hfind
    apply inv_remap s _ _ hi (keeps_setRefs f _)
      (fun e he => refs_push s.handles ⟨f, e0.gen, ex, e0.vmap, _⟩ e (hi.refsEq e he))
    exact fun hc => List.forall_mem_push (hi.handleEntry hc) ⟨e0, he0, he0f, rfl, rfl⟩
  · rename_i hfind
    have hnone : ∀ e ∈ s.entries, e.field ≠ f := by
      intro e he
      simpa using List.find?_eq_none.1 hfind e he
    have hzero : (s.handles.filter (fun h => h.field = f)).length = 0 := by
      rw [List.length_eq_zero_iff, List.filter_eq_nil_iff]
      intro h hh hf
      obtain ⟨e, he, h1, _⟩ := hi.handleEntry hl h hh
      exact hnone e he (h1.trans (by simpa using hf))
    constructor
    · rw [List.map_append, List.nodup_append]
      refine ⟨hi.fieldsNodup, List.pairwise_singleton _ _, ?_⟩
      intro a ha b hb
      obtain ⟨e, he, rfl⟩ := List.mem_map.1 ha
      rw [List.mem_singleton.1 hb]
      exact hnone e he
    · refine List.forall_mem_push (fun e he => ?_) ?_
      · refine Eq.trans ?_ (refs_push s.handles _ e (hi.refsEq e he))
        rw [if_neg (hnone e he)]
      · simp only [HCache.openHandles]
        rw [length_filter_push, hzero, if_pos (decide_eq_true rfl)]
        rfl
    · refine fun _ => List.forall_mem_push (fun h hh => ?_) ?_
      · obtain ⟨e, he, h1⟩ := hi.handleEntry hl h hh
        exact ⟨e, List.mem_append_left _ he, h1⟩
      · exact ⟨_, List.mem_append_right _ (List.mem_singleton.2 rfl), rfl, rfl, rfl⟩
    · intro hc
      rw [hl] at hc
      cases hc
    · rw [List.map_append, ← List.append_assoc, List.range_succ]
      exact hi.gens.append_right _

theorem inv_close (s : HCache) (h : Handle) (hi : Inv s) (hl : h ∈ s.handles) :
    Inv (s.closeHandle h) := by
  unfold HCache.closeHandle
  exact inv_remap s _ _ hi (keeps_setRefs h.field _)
    (fun e he => refs_erase s.handles h hl e (hi.refsEq e he))
    (fun hc h' hh' => hi.handleEntry hc h' (List.mem_of_mem_erase hh'))

theorem tick_no_open (s : HCache) (ev : List Name) (hi : Inv s)
    (hl : s.toVCache.tickLegal ev = true) (f : Name) (hf : f ∈ ev) : s.openHandles f = 0 := by
  obtain ⟨e, he, h1, h2⟩ := (tickLegal_iff s ev).1 hl f hf
  have h3 := hi.refsEq e he
  rw [h1] at h3
  omega

theorem inv_tick (s : HCache) (ev : List Name) (hi : Inv s)
    (hl : s.toVCache.tickLegal ev = true) : Inv (s.tick ev) := by
  unfold HCache.tick
  constructor
  · exact hi.fieldsNodup.sublist ((List.filter_sublist).map _)
  · intro e he
    exact hi.refsEq e (List.mem_filter.1 he).1
  · intro hc h hh
    obtain ⟨e, he, h1, h2, h3⟩ := hi.handleEntry hc h hh
    refine ⟨e, List.mem_filter.2 ⟨he, ?_⟩, h1, h2, h3⟩
    have hpos := openHandles_pos s h hh
    rw [← h1] at hpos
    have hk : e.field ∉ ev := fun hm => Nat.ne_of_gt hpos (tick_no_open s ev hi hl _ hm)
    simpa using hk
  · intro hc
    simp only [hi.closedEmpty hc, List.filter_nil]
  · rw [List.append_assoc, ← List.map_append]
    exact (((List.filter_append_perm _ _).map _).append_left _).trans hi.gens

theorem inv_clear (s : HCache) (hi : Inv s) : Inv s.clear := by
  unfold HCache.clear
  constructor
  · exact List.nodup_nil
  · intro e he
    cases he
  · intro hc
    cases hc
  · intro _
    rfl
  · rw [List.map_nil, List.append_nil]
    exact hi.gens

theorem inv_step (S : Setup) (s : HCache) (e : Ev) (hi : Inv s) (hl : s.legal e = true) :
    Inv (s.step S e) := by
  cases e with
  | «open» f ex => exact inv_open S s f ex hi (by simpa [HCache.legal] using hl)
  | close h => exact inv_close s h hi (by simpa [HCache.legal] using hl)
  | tick ev => exact inv_tick s ev hi (by simpa [HCache.legal] using hl)
  | clear => exact inv_clear s hi

theorem inv_run (S : Setup) (evs : List Ev) (s s' : HCache) : Inv s → run S s evs = some s' → Inv s' :=
  run_induction S (fun s _ => Inv s) (fun s e _ => inv_step S s e) evs s s'

/-! ### the plain `VCache` follows the instrumented one -/

theorem toVCache_step (S : Setup) (s : HCache) (e : Ev) :
    (s.step S e).toVCache = vstep s.toVCache e := by
  cases e with
  | «open» f ex =>
    have hany : s.toVCache.entries.any (fun e => e.field = f) =
        (s.entries.find? (fun e => e.field = f)).isSome := by
      rw [List.isSome_find?, HCache.toVCache, List.any_map]
      rfl
    simp only [HCache.step, vstep, HCache.open, VCache.open, hany]
    cases s.entries.find? (fun e => decide (e.field = f)) with
    | some e0 =>
      simp only [Option.isSome_some, if_true, HCache.toVCache]
      congr 1
      exact map_map_comm _ _ _ (fun a => apply_ite (fun e : IEntry => (⟨e.field, e.refs⟩ : CacheEntry)) _ _ _) _
    | none =>
      simp only [Option.isSome_none, Bool.false_eq_true, if_false, HCache.toVCache, List.map_append,
        List.map_cons, List.map_nil]
  | close h =>
    simp only [HCache.step, vstep, HCache.closeHandle, VCache.closeHandle, HCache.toVCache]
    congr 1
    exact map_map_comm _ _ _ (fun a => apply_ite (fun e : IEntry => (⟨e.field, e.refs⟩ : CacheEntry)) _ _ _) _
  | tick ev =>
    simp only [HCache.step, vstep, HCache.tick, VCache.tick, HCache.toVCache, List.filter_map,
      List.length_append, List.length_map]
    rfl
  | clear =>
    simp only [HCache.step, vstep, HCache.clear, VCache.clear, HCache.toVCache, List.map_nil,
      List.length_append, List.length_map]

theorem run_toVCache (S : Setup) (evs : List Ev) (s s' : HCache) (h : run S s evs = some s') :
    s'.toVCache = evs.foldl vstep s.toVCache :=
  run_induction S (fun t es => es.foldl vstep t.toVCache = evs.foldl vstep s.toVCache)
    (fun t e _ hr _ => (toVCache_step S t e).symm ▸ hr) evs s s' rfl h

/-- for EVERY event, legal or not -/
theorem vcount_step (c : VCache) (e : Ev) (h : c.created = c.released + c.live) :
    (vstep c e).created = (vstep c e).released + (vstep c e).live := by
  simp only [VCache.live] at h
  cases e with
  | «open» f ex =>
    simp only [vstep, VCache.open, VCache.live]
    split
    · simpa only [List.length_map] using h
    · simp only [List.length_append, List.length_singleton]
      exact congrArg (· + 1) h
  | close hd =>
    simpa only [vstep, VCache.closeHandle, VCache.live, List.length_map] using h
  | tick ev =>
    simp only [vstep, VCache.tick, VCache.live]
    have h1 := (List.filter_append_perm (fun e : CacheEntry => ev.contains e.field) c.entries).length_eq
    rw [List.length_append] at h1
    omega
  | clear =>
    simp only [vstep, VCache.clear, VCache.live, List.length_nil]
    exact h

theorem vcount_foldl (evs : List Ev) (c : VCache) (h : c.created = c.released + c.live) :
    (evs.foldl vstep c).created = (evs.foldl vstep c).released + (evs.foldl vstep c).live :=
  List.foldl_induction (fun c => c.created = c.released + c.live) h (fun c e _ => vcount_step c e)

/-- with the complete table, what entries cache and what handles captured is a function of
    the segment (and, for the exclusion list, of the handle's own `except`) -/
structure MapsOK (seg : Name → Content) (s : HCache) : Prop where
  entries : ∀ e ∈ s.entries, e.vmap = vecDocIDMap (seg e.field)
  handles : ∀ h ∈ s.handles, h.vmap = vecDocIDMap (seg h.field) ∧
    h.excl = vecIDsToExclude (vecDocIDMap (seg h.field)) h.ex

theorem mapsOK_step (seg : Name → Content) (s : HCache) (e : Ev) (hm : MapsOK seg s) :
    MapsOK seg (s.step (Setup.fixed seg) e) := by
  have hmap : ∀ g : IEntry → IEntry, Keeps g → ∀ e' ∈ s.entries.map g,
      e'.vmap = vecDocIDMap (seg e'.field) := by
    intro g hg e' he'
    obtain ⟨e, he, rfl⟩ := List.mem_map.1 he'
    rw [hg.vmap, hg.field]
    exact hm.entries e he
  cases e with
  | «open» f ex =>
    simp only [HCache.step, HCache.open]
    split
    · rename_i e0 hfind
      have he0f : e0.field = f := by simpa using List.find?_some hfind
      have hv := hm.entries e0 (List.mem_of_find?_eq_some hfind)
      rw [he0f] at hv
      exact ⟨hmap _ (keeps_setRefs f _), List.forall_mem_push hm.handles ⟨hv, by rw [hv]⟩⟩
    · exact ⟨List.forall_mem_push hm.entries rfl, List.forall_mem_push hm.handles ⟨rfl, rfl⟩⟩
  | close h =>
    exact ⟨hmap _ (keeps_setRefs h.field _), fun h' hh' => hm.handles h' (List.mem_of_mem_erase hh')⟩
  | tick ev =>
    exact ⟨fun e he => hm.entries e (List.mem_filter.1 he).1, hm.handles⟩
  | clear =>
    exact ⟨fun e he => (by cases he), hm.handles⟩

theorem mapsOK_run (seg : Name → Content) (evs : List Ev) (s s' : HCache) :
    MapsOK seg s → run (Setup.fixed seg) s evs = some s' → MapsOK seg s' :=
  run_induction _ (fun s _ => MapsOK seg s) (fun s e _ hm _ => mapsOK_step seg s e hm) evs s s'

theorem mapsOK_init (seg : Name → Content) : MapsOK seg {} := by
  constructor <;> simp

end Zap.VecL
