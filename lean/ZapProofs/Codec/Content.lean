/-
  ZapProofs.Codec.Content: the doc-value content coder framing
  (contentcoder.go `Add`, `flushContents`, `Write`) against `contentDecode`.
  Snappy is abstract: any `compress` with `snappyDecode (compress x) = some x`.
-/
import ZapProofs.Codec.Uvarint
import ZapProofs.Codec.ChunkTable
import ZapProofs.Codec.Crc

namespace Zap.Codec

/-! ### writer side (mirrors contentcoder.go) -/

structure ContentCoder where
  chunkSize : Nat
  lens : List Nat
  curr : Nat
  /-- `chunkMeta`: (DocNum, DocDvOffset) -/
  cmeta : List (Nat × Nat)
  /-- `chunkBuf` (uncompressed) -/
  buf : Bytes
  final : Bytes

def ContentCoder.new (cs maxDoc : Nat) : ContentCoder :=
  { chunkSize := cs, lens := List.replicate (maxDoc / cs + 1) 0, curr := 0, cmeta := [],
    buf := [], final := [] }

/-- `chunkMetaBuf` at flush time: count, then (docNum, offset) pairs. -/
def metaBytes (m : List (Nat × Nat)) : Bytes :=
  putUvarint m.length ++ putUvarints (m.flatMap (fun x => [x.1, x.2]))

/-- `flushContents` (non-progressive; with `progressiveWrite` the same bytes
    reach the writer earlier). -/
def ContentCoder.flush (compress : Bytes → Bytes) (c : ContentCoder) : ContentCoder :=
  { c with
    final := c.final ++ (metaBytes c.cmeta ++ compress c.buf),
    lens := c.lens.set c.curr ((compress c.buf).length + (metaBytes c.cmeta).length) }

/-- `Add(docNum, vals)`. -/
def ContentCoder.add (compress : Bytes → Bytes) (c : ContentCoder) (doc : Nat) (vals : Bytes) :
    ContentCoder :=
  let chunk := doc / c.chunkSize
  let c := if chunk ≠ c.curr then
      { c.flush compress with buf := [], cmeta := [], curr := chunk } else c
  { c with buf := c.buf ++ vals, cmeta := c.cmeta ++ [(doc, c.buf.length + vals.length)] }

/-- `Write`: data, chunk end offsets, length of the offsets (8 bytes BE),
    number of chunks (8 bytes BE). -/
def ContentCoder.write (c : ContentCoder) : Bytes :=
  c.final ++ putUvarints (endOffsets c.lens)
    ++ beBytes 8 (putUvarints (endOffsets c.lens)).length ++ beBytes 8 c.lens.length

def contentEncode (compress : Bytes → Bytes) (cs maxDoc : Nat) (adds : List (Nat × Bytes)) :
    Bytes :=
  ((adds.foldl (fun c a => c.add compress a.1 a.2) (ContentCoder.new cs maxDoc)).flush
    compress).write

theorem ContentCoder.add_same (compress : Bytes → Bytes) {c : ContentCoder} {doc : Nat}
    (vals : Bytes) (h : doc / c.chunkSize = c.curr) :
    c.add compress doc vals =
      { c with buf := c.buf ++ vals, cmeta := c.cmeta ++ [(doc, c.buf.length + vals.length)] } := by
  simp [ContentCoder.add, h]

theorem ContentCoder.add_next (compress : Bytes → Bytes) {c : ContentCoder} {doc : Nat}
    (vals : Bytes) (h : doc / c.chunkSize ≠ c.curr) :
    c.add compress doc vals =
      { c.flush compress with
        curr := doc / c.chunkSize, cmeta := [(doc, vals.length)], buf := vals } := by
  simp [ContentCoder.add, h]

def chunkDocs (cs : Nat) (p : List (Nat × Bytes)) (k : Nat) : List (Nat × Bytes) :=
  p.filter (fun a => a.1 / cs = k)

def metaFrom (start : Nat) : List (Nat × Bytes) → List (Nat × Nat)
  | [] => []
  | a :: rest => (a.1, start + a.2.length) :: metaFrom (start + a.2.length) rest

def flatVals (docs : List (Nat × Bytes)) : Bytes := docs.flatMap (·.2)

def chunkSeg (compress : Bytes → Bytes) (docs : List (Nat × Bytes)) : Bytes :=
  metaBytes (metaFrom 0 docs) ++ compress (flatVals docs)

/-- The bytes of chunk `k`: chunk 0 is flushed even when it is empty (by the final flush, if by
    none before), any other chunk only if a document went to it. -/
def seg (compress : Bytes → Bytes) (cs : Nat) (p : List (Nat × Bytes)) (k : Nat) : Bytes :=
  if k = 0 ∨ chunkDocs cs p k ≠ [] then chunkSeg compress (chunkDocs cs p k) else []

theorem seg_law (compress : Bytes → Bytes) (cs : Nat) :
    SegLaw (fun a : Nat × Bytes => a.1 / cs) (seg compress cs) :=
  SegLaw.of_chunkOf (fun a : Nat × Bytes => a.1 / cs)
    (fun k l => if k = 0 ∨ l ≠ [] then chunkSeg compress l else [])
    (fun k hk => by simp [Nat.ne_of_gt hk])

theorem chunkSeg_ne_nil (compress : Bytes → Bytes) (docs : List (Nat × Bytes)) :
    chunkSeg compress docs ≠ [] :=
  fun h => putUvarint_ne_nil _
    (List.append_eq_nil_iff.mp (List.append_eq_nil_iff.mp h).1).1

theorem seg_cases (compress : Bytes → Bytes) (cs : Nat) (p : List (Nat × Bytes)) (k : Nat) :
    (seg compress cs p k = [] ∧ chunkDocs cs p k = []) ∨
    (seg compress cs p k ≠ [] ∧ seg compress cs p k = chunkSeg compress (chunkDocs cs p k)) := by
  unfold seg
  split
  · exact .inr ⟨chunkSeg_ne_nil _ _, rfl⟩
  · next hv => exact .inl ⟨rfl, Decidable.not_not.mp (fun hne => hv (.inr hne))⟩

theorem metaFrom_snoc (docs : List (Nat × Bytes)) (a : Nat × Bytes) : ∀ s,
    metaFrom s (docs ++ [a])
      = metaFrom s docs ++ [(a.1, s + (flatVals docs).length + a.2.length)] := by
  induction docs with
  | nil => intro s; simp [metaFrom, flatVals]
  | cons d docs ih =>
    intro s
    simp only [List.cons_append, metaFrom, ih, flatVals, List.flatMap_cons, List.length_append]
    simp only [Nat.add_assoc]

structure CInv (compress : Bytes → Bytes) (cs n : Nat) (p : List (Nat × Bytes))
    (st : ContentCoder) : Prop where
  hcs : st.chunkSize = cs
  hbuf : st.buf = flatVals (chunkDocs cs p st.curr)
  hmeta : st.cmeta = metaFrom 0 (chunkDocs cs p st.curr)
  tbl : ChunkInv (fun a => a.1 / cs) (seg compress cs) n p st.curr st.lens st.final

theorem ContentCoder.flush_eq {compress : Bytes → Bytes} {cs n : Nat} {p : List (Nat × Bytes)}
    {st : ContentCoder} (inv : CInv compress cs n p st) :
    st.flush compress = { st with
      final := st.final ++ seg compress cs p st.curr,
      lens := st.lens.set st.curr (seg compress cs p st.curr).length } := by
  have hvis : st.curr = 0 ∨ chunkDocs cs p st.curr ≠ [] :=
    inv.tbl.hvis.imp_right fun ⟨_, ha, h⟩ =>
      List.ne_nil_of_mem (List.mem_filter.mpr ⟨ha, decide_eq_true h⟩)
  rw [ContentCoder.flush, seg, if_pos hvis, chunkSeg, ← inv.hmeta, ← inv.hbuf,
    List.length_append, Nat.add_comm]

theorem CInv_new (compress : Bytes → Bytes) (cs maxDoc : Nat) :
    CInv compress cs (maxDoc / cs + 1) [] (ContentCoder.new cs maxDoc) :=
  ⟨rfl, rfl, rfl, ChunkInv.new _⟩

theorem CInv_add {compress : Bytes → Bytes} {cs n : Nat} {p : List (Nat × Bytes)}
    {st : ContentCoder} (a : Nat × Bytes)
    (inv : CInv compress cs n p st) (hge : ∀ b ∈ p, b.1 / cs ≤ a.1 / cs) (hlt : a.1 / cs < n) :
    CInv compress cs n (p ++ [a]) (st.add compress a.1 a.2) := by
  have hfl := ContentCoder.flush_eq inv
  obtain ⟨hcs, hbuf, hmeta, tbl⟩ := inv
  subst hcs
  -- buffer and metadata of `a`'s chunk after the add, from what they were before
  have hsnoc : chunkDocs st.chunkSize (p ++ [a]) (a.1 / st.chunkSize)
      = chunkDocs st.chunkSize p (a.1 / st.chunkSize) ++ [a] :=
    chunkOf_snoc_eq (fun a : Nat × Bytes => a.1 / st.chunkSize) p a
  have hb : flatVals (chunkDocs st.chunkSize (p ++ [a]) (a.1 / st.chunkSize))
      = flatVals (chunkDocs st.chunkSize p (a.1 / st.chunkSize)) ++ a.2 := by
    rw [hsnoc, flatVals, List.flatMap_append, List.flatMap_singleton]
    rfl
  have hm := metaFrom_snoc (chunkDocs st.chunkSize p (a.1 / st.chunkSize)) a 0
  rw [← hsnoc, Nat.zero_add] at hm
  by_cases h : a.1 / st.chunkSize = st.curr
  · rw [ContentCoder.add_same compress a.2 h]
    rw [h, ← hbuf] at hb
    rw [h, ← hbuf, ← hmeta] at hm
    exact ⟨rfl, hb.symm, hm.symm, tbl.same (seg_law compress _) a h⟩
  · have hgt : st.curr < a.1 / st.chunkSize := Nat.lt_of_le_of_ne (tbl.curr_le hge) (Ne.symm h)
    have hdocs : chunkDocs st.chunkSize p (a.1 / st.chunkSize) = [] :=
      chunkOf_eq_nil _ p _ (fun b hb => Nat.ne_of_lt (Nat.lt_of_le_of_lt (tbl.hle b hb) hgt))
    simp only [hdocs, flatVals, metaFrom, List.flatMap_nil, List.length_nil, Nat.zero_add,
      List.nil_append] at hb hm
    rw [ContentCoder.add_next compress a.2 h, hfl]
    exact ⟨rfl, hb.symm, hm.symm, tbl.next (seg_law compress _) a hgt hlt⟩

/-- State after all adds and the final flush (`Close`). -/
theorem content_closed_state (compress : Bytes → Bytes) (cs maxDoc : Nat)
    (adds : List (Nat × Bytes))
    (hmono : adds.Pairwise (fun a b => a.1 ≤ b.1)) (hmax : ∀ a ∈ adds, a.1 ≤ maxDoc) :
    let st := (adds.foldl (fun c a => c.add compress a.1 a.2) (ContentCoder.new cs maxDoc)).flush
      compress
    let segs := (List.range (maxDoc / cs + 1)).map (seg compress cs adds)
    st.lens = segs.map List.length ∧ st.final = segs.flatten := by
  have inv := foldl_chunks (I := CInv compress cs (maxDoc / cs + 1)) (fun p st a => CInv_add a)
    (CInv_new compress cs maxDoc) adds (div_mono hmono) (div_lt_succ hmax)
  simp only [ContentCoder.flush_eq inv]
  exact inv.tbl.closed (seg_law compress cs)

theorem pairs_cons2 (raw : Bytes) (d off : Nat) (m : List Nat) (start : Nat) :
    contentDecode.pairs raw (d :: off :: m) start
      = (d, (raw.drop start).take (off - start)) :: contentDecode.pairs raw m off := rfl

theorem pairs_nil (raw : Bytes) (start : Nat) : contentDecode.pairs raw [] start = [] := rfl

def flatMeta (m : List (Nat × Nat)) : List Nat := m.flatMap (fun x => [x.1, x.2])

theorem length_flatMap_pair {α β : Type} (f g : α → β) (l : List α) :
    (l.flatMap (fun x => [f x, g x])).length = 2 * l.length := by
  induction l with
  | nil => rfl
  | cons a l ih =>
    rw [List.flatMap_cons, List.length_append, ih, List.length_cons (as := l), Nat.mul_succ,
      Nat.add_comm]
    rfl

theorem metaFrom_length (docs : List (Nat × Bytes)) : ∀ s, (metaFrom s docs).length = docs.length := by
  induction docs with
  | nil => intro s; rfl
  | cons a docs ih => intro s; simp [metaFrom, ih]

theorem pairs_metaFrom (raw : Bytes) (docs : List (Nat × Bytes)) : ∀ (start : Nat) (post : Bytes),
    raw.drop start = flatVals docs ++ post →
    contentDecode.pairs raw (flatMeta (metaFrom start docs)) start = docs := by
  induction docs with
  | nil => intro start post _; simp [metaFrom, flatMeta, pairs_nil]
  | cons a docs ih =>
    intro start post h
    have h' : raw.drop start = a.2 ++ (flatVals docs ++ post) := by
      rw [h]; simp [flatVals]
    simp only [metaFrom, flatMeta, List.flatMap_cons, List.cons_append, List.nil_append, pairs_cons2]
    rw [Nat.add_sub_cancel_left, h', List.take_left' rfl]
    congr 1
    apply ih (start + a.2.length) post
    rw [← List.drop_drop, h', List.drop_left' rfl]

/-- What `contentDecode` reads off the end of a framed byte string shorter than `2 ^ 64`: the two
    8-byte fields, the offsets before them and the data before those. -/
theorem frame_facts {bs : Bytes} (final offs : Bytes) (n : Nat)
    (hbs : bs = final ++ offs ++ beBytes 8 offs.length ++ beBytes 8 n) (hn : n ≤ offs.length)
    (hsize : bs.length < 2 ^ 64) :
    ¬ bs.length < 16 ∧
    be64 (bs.drop (bs.length - 8)) = n ∧
    be64 ((bs.drop (bs.length - 16)).take 8) = offs.length ∧
    ¬ offs.length + 16 > bs.length ∧
    bs.take (bs.length - 16 - offs.length) = final ∧
    (bs.drop (bs.length - 16 - offs.length)).take offs.length = offs := by
  have hlen : bs.length = final.length + offs.length + 16 := by
    rw [hbs, List.length_append, List.length_append, List.length_append, beBytes_length,
      beBytes_length]
  have ho : offs.length < 256 ^ 8 :=
    Nat.lt_of_le_of_lt (Nat.le_trans (Nat.le_add_left _ _) (Nat.le_add_right _ 16)) (hlen ▸ hsize)
  have e8 : final.length + offs.length + 16 - 8 = final.length + offs.length + 8 :=
    Nat.add_sub_assoc (by decide) _
  rw [hlen, e8, Nat.add_sub_cancel, Nat.add_sub_cancel]
  refine ⟨Nat.not_lt.mpr (Nat.le_add_left _ _), ?_, ?_, Nat.not_lt.mpr (Nat.le_add_left _ _), ?_, ?_⟩
  · rw [hbs, List.drop_left' (by rw [List.length_append, List.length_append, beBytes_length])]
    exact be64_beBytes 8 n (Nat.lt_of_le_of_lt hn ho)
  · rw [hbs, List.append_assoc (final ++ offs), List.drop_left' List.length_append,
      List.take_left' (beBytes_length _ _)]
    exact be64_beBytes 8 _ ho
  · rw [hbs, List.append_assoc, List.append_assoc, List.take_left]
  · rw [hbs, List.append_assoc, List.append_assoc, List.drop_left, List.take_left]

theorem foldr_some {α : Type} (f : Nat → Option (List α) → Option (List α)) (v : Nat → α)
    (l : List Nat) (h : ∀ c ∈ l, ∀ acc, f c (some acc) = some (v c :: acc)) :
    l.foldr f (some []) = some (l.map v) := by
  induction l with
  | nil => rfl
  | cons c l ih =>
    rw [List.foldr_cons, ih (fun c hc => h c (by simp [hc])), h c (by simp)]
    rfl

theorem metaBytes_eq (m : List (Nat × Nat)) :
    metaBytes m = putUvarint m.length ++ putUvarints (flatMeta m) := rfl

theorem content_roundtrip (compress : Bytes → Bytes)
    (hsn : ∀ x, snappyDecode (compress x) = some x)
    (cs maxDoc : Nat) (adds : List (Nat × Bytes))
    (hmono : adds.Pairwise (fun a b => a.1 ≤ b.1)) (hmax : ∀ a ∈ adds, a.1 ≤ maxDoc)
    (hsize : (contentEncode compress cs maxDoc adds).length < 2 ^ 64) :
    contentDecode (contentEncode compress cs maxDoc adds)
      = some ((List.range (maxDoc / cs + 1)).map (fun c => adds.filter (fun a => a.1 / cs = c))) := by
  obtain ⟨hlens, hfinal⟩ := content_closed_state compress cs maxDoc adds hmono hmax
  unfold contentEncode ContentCoder.write at *
  generalize ((adds.foldl (fun c a => c.add compress a.1 a.2) (ContentCoder.new cs maxDoc)).flush
      compress) = st at *
  have hn : st.lens.length = maxDoc / cs + 1 := by rw [hlens]; simp
  have hnle : st.lens.length ≤ (putUvarints (endOffsets st.lens)).length := by
    have := putUvarints_length_ge (endOffsets st.lens)
    rwa [endOffsets_length] at this
  -- the trailer is read with the encoded bytes as a variable `bs`: unfolding `contentDecode` on the
  -- framed term itself copies that term into every `let` of the decoder
  generalize hbs : st.final ++ putUvarints (endOffsets st.lens)
    ++ beBytes 8 (putUvarints (endOffsets st.lens)).length ++ beBytes 8 st.lens.length = bs at *
  obtain ⟨f1, f2, f3, f4, f5, f6⟩ := frame_facts _ _ _ hbs.symm hnle hsize
  unfold contentDecode
  simp only [if_neg f1, f2, f3, if_neg f4, f5, f6]
  have hr := readN_putUvarints (endOffsets st.lens) []
  rw [endOffsets_length, List.append_nil] at hr
  rw [hr]
  simp only
  rw [hn]
  apply foldr_some
  intro c hc acc
  have hc : c < maxDoc / cs + 1 := List.mem_range.mp hc
  have hcl : c < st.lens.length := hn ▸ hc
  -- chunk `c` lies between the prefix sums `s` and `s + (its segment's length)`
  have hslice := chunk_slice ((List.range (maxDoc / cs + 1)).map (seg compress cs adds)) c
    (by simpa using hc)
  have he : sumList (st.lens.take (c + 1))
      = sumList (st.lens.take c) + (seg compress cs adds c).length := by
    rw [sumList_take_succ st.lens c hcl]
    simp only [hlens, List.getElem_map, List.getElem_range]
  rw [← hlens, ← hfinal, chunkBoundary_endOffsets st.lens c hcl, he] at hslice
  simp only [List.getElem_map, List.getElem_range] at hslice
  rw [chunkBoundary_endOffsets st.lens c hcl, he]
  simp only
  rcases seg_cases compress cs adds c with ⟨hnil, hdocs⟩ | ⟨hnil, hseg⟩
  · rw [hnil, List.length_nil, Nat.add_zero, if_pos (Nat.le_refl _)]
    unfold chunkDocs at hdocs
    rw [hdocs]
  · rw [if_neg (Nat.not_le.mpr (Nat.lt_add_of_pos_right (List.length_pos_iff.mpr hnil))), hslice,
      hseg]
    unfold chunkSeg
    rw [metaBytes_eq, List.append_assoc, uvarint_putUvarint]
    simp only
    have hl2 : 2 * (metaFrom 0 (chunkDocs cs adds c)).length
        = (flatMeta (metaFrom 0 (chunkDocs cs adds c))).length := (length_flatMap_pair _ _ _).symm
    rw [hl2, readN_putUvarints]
    simp only
    rw [hsn]
    simp only
    rw [pairs_metaFrom _ _ 0 [] (by simp)]
    rfl

/-! ### the snappy hypothesis is satisfiable

  A (poor but valid) snappy encoder: every byte as a one-byte literal. -/

def snappyLit (x : Bytes) : Bytes := putUvarint x.length ++ x.flatMap (fun b => [0, b])

theorem snappy_go_lit (x : Bytes) : ∀ (fuel : Nat) (out : Bytes), x.length + 1 ≤ fuel →
    snappyDecode.go fuel (x.flatMap (fun b => [0, b])) out = some (out ++ x) := by
  induction x with
  | nil =>
    intro fuel out h
    cases fuel with
    | zero => exact absurd h (Nat.not_succ_le_zero _)
    | succ fuel => simp [snappyDecode.go]
  | cons b x ih =>
    intro fuel out h
    cases fuel with
    | zero => exact absurd h (Nat.not_succ_le_zero _)
    | succ fuel =>
      simp only [List.flatMap_cons, List.cons_append, List.nil_append, snappyDecode.go]
      have := ih fuel (out ++ [b]) (Nat.le_of_succ_le_succ h)
      simpa using this

theorem lit_length (x : Bytes) : (x.flatMap (fun b => [0, b])).length = 2 * x.length :=
  length_flatMap_pair (fun _ => 0) id x

theorem snappyDecode_snappyLit (x : Bytes) : snappyDecode (snappyLit x) = some x := by
  unfold snappyDecode snappyLit
  rw [uvarint_putUvarint]
  simp only
  rw [snappy_go_lit x _ [] (by rw [lit_length]; exact Nat.succ_le_succ (Nat.le_mul_of_pos_left _ Nat.two_pos))]
  simp

theorem content_roundtrip_lit (cs maxDoc : Nat) (adds : List (Nat × Bytes))
    (hmono : adds.Pairwise (fun a b => a.1 ≤ b.1)) (hmax : ∀ a ∈ adds, a.1 ≤ maxDoc)
    (hsize : (contentEncode snappyLit cs maxDoc adds).length < 2 ^ 64) :
    contentDecode (contentEncode snappyLit cs maxDoc adds)
      = some ((List.range (maxDoc / cs + 1)).map (fun c => adds.filter (fun a => a.1 / cs = c))) :=
  content_roundtrip snappyLit snappyDecode_snappyLit cs maxDoc adds hmono hmax hsize

end Zap.Codec
