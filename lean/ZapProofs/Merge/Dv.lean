/-
  ZapProofs.Merge.Dv: the doc-value part of C06 (Props/C06Dv.lean).  The doc-value data of a merged
  field is the concatenation, over ALL inputs in segment order, of each input's data with dropped
  documents removed and the others renumbered (`dvData_mergeSegs`); a lookup by new number goes to the
  input that owns it: the maps have separated ranges and each is strictly monotone on its survivors.
-/
import ZapProofs.Merge.Fields
import ZapProofs.Read.Dv

namespace Zap.MergeDv
open Zap.MergeL Zap.Dv

theorem recorded_nil (k : Nat) : recorded [] k = [] := rfl

theorem recorded_of_nokey {a : List (Nat × List Bytes)} {k : Nat} (h : ∀ p ∈ a, p.1 ≠ k) :
    recorded a k = [] := by
  unfold recorded
  rw [List.find?_eq_none.2 fun p hp => by simpa using h p hp]
  rfl

theorem recorded_ne_nil {a : List (Nat × List Bytes)} {k : Nat} (h : recorded a k ≠ []) :
    ∃ p ∈ a, p.1 = k ∧ p.2 = recorded a k := by
  unfold recorded at h ⊢
  cases hf : a.find? (fun p => decide (p.1 = k)) with
  | none => rw [hf] at h; exact absurd rfl h
  | some p =>
    refine ⟨p, List.mem_of_find?_eq_some hf, ?_, rfl⟩
    simpa using List.find?_some hf

theorem dvMerge_eq (m : List (Option Nat)) (dv : List (Nat × List Bytes)) :
    dvMerge m dv = dv.filterMap (fun p => (m.getD p.1 none).map (fun d => (d, p.2))) := by
  unfold dvMerge
  congr
  funext p
  cases m.getD p.1 none <;> rfl

theorem mem_dvMerge {m : List (Option Nat)} {dv : List (Nat × List Bytes)} {q : Nat × List Bytes} :
    q ∈ dvMerge m dv ↔ ∃ p ∈ dv, m.getD p.1 none = some q.1 ∧ q.2 = p.2 := by
  simp only [dvMerge_eq, List.mem_filterMap, Option.map_eq_some_iff]
  constructor
  · rintro ⟨p, hp, d, hd, rfl⟩
    exact ⟨p, hp, hd, rfl⟩
  · rintro ⟨p, hp, hd, h2⟩
    exact ⟨p, hp, q.1, hd, by rw [← h2]⟩

theorem monoMap_inj {m : List (Option Nat)} (hm : MonoMap m) {d e k : Nat}
    (h1 : m.getD d none = some k) (h2 : m.getD e none = some k) : d = e := by
  rcases Nat.lt_trichotomy d e with h | h | h
  · exact absurd (hm d e k k h h1 h2) (Nat.lt_irrefl _)
  · exact h
  · exact absurd (hm e d k k h h2 h1) (Nat.lt_irrefl _)

theorem recorded_dvMerge {m : List (Option Nat)} (hm : MonoMap m) {d d' : Nat}
    (hd : m.getD d none = some d') (dv : List (Nat × List Bytes)) :
    recorded (dvMerge m dv) d' = recorded dv d := by
  unfold recorded
  rw [← lookup_eq_find?, ← lookup_eq_find?, dvMerge_eq,
    lookup_filterMap_key (fun d => m.getD d none) (fun _ _ _ => monoMap_inj hm) hd]

theorem pairwise_dvMerge {m : List (Option Nat)} (hm : MonoMap m) {dv : List (Nat × List Bytes)}
    (h : dv.Pairwise (fun a b => a.1 < b.1)) : (dvMerge m dv).Pairwise (fun a b => a.1 < b.1) := by
  rw [dvMerge_eq]
  refine h.filterMap _ ?_
  intro a a' hlt b hb b' hb'
  obtain ⟨x, h1, rfl⟩ := Option.map_eq_some_iff.1 hb
  obtain ⟨x', h2, rfl⟩ := Option.map_eq_some_iff.1 hb'
  exact hm a.1 a'.1 x x' hlt h1 h2

def dvData (s : Seg) (nm : Name) : List (Nat × List Bytes) :=
  match s.field? nm with
  | none => []
  | some f => f.dv.getD []

theorem dvData_cases (s : Seg) (nm : Name) :
    dvData s nm = [] ∨ ∃ f ∈ s.loadedFields, dvData s nm = f.dv.getD [] := by
  unfold dvData
  split
  · exact .inl rfl
  · next f hf => exact .inr ⟨f, List.mem_of_find?_eq_some hf, rfl⟩

def dvPart (nm : Name) (p : Seg × List (Option Nat)) : List (Nat × List Bytes) :=
  dvMerge p.2 (dvData p.1 nm)

theorem dvPart_key_mem {nm : Name} {p : Seg × List (Option Nat)} {q : Nat × List Bytes}
    (h : q ∈ dvPart nm p) : some q.1 ∈ p.2 := by
  obtain ⟨e, _, he, _⟩ := mem_dvMerge.1 h
  exact getD_some_mem he

theorem flatMap_id_filterMap {α β : Type} (g : α → Option (List β)) (l : List α) :
    (l.filterMap g).flatMap id = l.flatMap (fun a => (g a).getD []) := by
  induction l with
  | nil => rfl
  | cons a l ih =>
    rw [List.filterMap_cons, List.flatMap_cons, ← ih]
    cases g a <;> rfl

theorem dvPartsOf_flat (nm : Name) (zs : List (Seg × List (Option Nat))) :
    (dvPartsOf nm zs).flatMap id = zs.flatMap (dvPart nm) := by
  unfold dvPartsOf
  rw [flatMap_id_filterMap]
  apply List.flatMap_congr_mem
  intro p _
  unfold dvPart dvData
  cases p.1.field? nm with
  | none => rfl
  | some f =>
    dsimp only
    cases f.dv <;> rfl

theorem mergedDv_getD (nm : Name) (zs : List (Seg × List (Option Nat))) :
    (mergedDv nm zs).getD [] = zs.flatMap (dvPart nm) := by
  unfold mergedDv
  split
  · rename_i h
    rw [← dvPartsOf_flat, List.isEmpty_iff.1 h]; rfl
  · rw [Option.getD_some, dvPartsOf_flat]

theorem mergedDv_ne_none (nm : Name) (zs : List (Seg × List (Option Nat))) :
    mergedDv nm zs ≠ none ↔ ∃ p ∈ zs, ∃ f, p.1.field? nm = some f ∧ f.dv ≠ none := by
  have h1 : mergedDv nm zs ≠ none ↔ dvPartsOf nm zs ≠ [] := by
    unfold mergedDv
    cases dvPartsOf nm zs <;> simp
  rw [h1, Ne, dvPartsOf, List.filterMap_eq_nil_iff, Classical.not_forall]
  refine exists_congr fun p => ?_
  rw [Classical.not_imp]
  refine and_congr_right fun _ => ?_
  cases p.1.field? nm with
  | none => simp
  | some f => cases f.dv <;> simp

theorem recorded_all_parts (nm : Name) (segs : List Seg) (drops : List (Option (List Nat)))
    (i : Nat) (hi : i < segs.length) {d d' : Nat}
    (hd : ((remapAll segs drops 0).getD i []).getD d none = some d') :
    recorded ((segs.zip (remapAll segs drops 0)).flatMap (dvPart nm)) d' =
      recorded (dvData segs[i] nm) d := by
  have hmem : (segs[i], (remapAll segs drops 0).getD i []) ∈ segs.zip (remapAll segs drops 0) :=
    mem_zip_remapAll.2 ⟨i, hi, rfl⟩
  unfold recorded
  rw [find?_flatMap_sep (m := fun p => p.2) (zip_pairwise_sep segs drops)
    (fun p _ x hx => dvPart_key_mem hx) hmem (getD_some_mem hd)]
  exact recorded_dvMerge (zip_mono segs drops _ hmem) hd _

theorem mem_all_parts {nm : Name} {segs : List Seg} {drops : List (Option (List Nat))}
    {q : Nat × List Bytes}
    (h : q ∈ (segs.zip (remapAll segs drops 0)).flatMap (dvPart nm)) :
    ∃ i, ∃ _ : i < segs.length, ∃ d, d < segs[i].numDocs ∧
      ((remapAll segs drops 0).getD i []).getD d none = some q.1 := by
  obtain ⟨p, hp, hq⟩ := List.mem_flatMap.1 h
  obtain ⟨i, hi, rfl⟩ := mem_zip_remapAll.1 hp
  obtain ⟨e, _, he, _⟩ := mem_dvMerge.1 hq
  refine ⟨i, hi, e.1, ?_, he⟩
  -- the map has one entry per document
  have := lt_length_of_getD_some he
  rwa [remapAll_getD segs drops 0 i hi, List.length_map, List.length_range] at this

theorem pairwise_all_parts (nm : Name) (zs : List (Seg × List (Option Nat)))
    (hmono : ∀ p ∈ zs, MonoMap p.2)
    (hsep : zs.Pairwise (fun a b => MapsSep a.2 b.2))
    (hasc : ∀ p ∈ zs, (dvData p.1 nm).Pairwise (fun a b => a.1 < b.1)) :
    (zs.flatMap (dvPart nm)).Pairwise (fun a b => a.1 < b.1) :=
  pairwise_flatMap_sep (m := fun p => p.2) hsep (fun _ _ _ hx => dvPart_key_mem hx)
    fun p hp => pairwise_dvMerge (hmono p hp) (hasc p hp)

theorem dvData_mergeSegs (v : Bool) (m : Nat) (segs : List Seg) (drops : List (Option (List Nat)))
    (hne : newDocCount segs drops ≠ 0) (nm : Name) :
    dvData (mergeSegs v m segs drops).1 nm = (segs.zip (remapAll segs drops 0)).flatMap (dvPart nm) := by
  unfold dvData
  rw [mergeSegs_field? v m segs drops hne nm]
  by_cases hnm : nm ∈ mergedFieldNames segs
  · rw [if_pos hnm]
    exact mergedDv_getD nm _
  · -- no input has the field
    rw [if_neg hnm, eq_comm, List.flatMap_eq_nil_iff]
    intro p hp
    unfold dvPart dvData
    rw [field?_none_of_not_merged hnm (List.of_mem_zip hp).1]
    rfl

end Zap.MergeDv
