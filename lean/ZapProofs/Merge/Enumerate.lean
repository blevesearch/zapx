/-
  ZapProofs.Merge.Enumerate: the k-way enumerator (enumerator.go).  For iterators ascending by key
  `enumerate` yields, key by key over the sorted union of all keys, one triple per iterator that
  carries the key (`enumerate_eq`).  `mergedKeys` is the walk over the keys that the
  dictionary merge and the thesaurus merge both take from it.  (Also here: the `Decidable`
  instances of `SortedLt` / `AscNat` that the examples of the property files evaluate.)
-/
import ZapModel.Merge
import ZapProofs.Base.Basic

namespace Zap.MergeL

theorem Bytes.nil_lt_iff (b : Bytes) : Bytes.lt [] b = true ↔ b ≠ [] := by
  cases b <;> simp [Bytes.lt]

theorem Bytes.not_lt_nil (a : Bytes) : Bytes.lt a [] = false := by
  cases a <;> rfl

theorem sortedLt_tail {a : Bytes} {l : List Bytes} (h : SortedLt (a :: l)) : SortedLt l :=
  sortedLt_iff_pairwise.2 (sortedLt_iff_pairwise.1 h).of_cons

/-! ### Decidability of the order predicates (for examples) -/

instance decSortedLt : (l : List Bytes) → Decidable (SortedLt l)
  | [] => isTrue trivial
  | [_] => isTrue trivial
  | a :: b :: rest =>
    match decEq (Bytes.lt a b) true, decSortedLt (b :: rest) with
    | isTrue h1, isTrue h2 => isTrue ⟨h1, h2⟩
    | isFalse h1, _ => isFalse (fun h => h1 h.1)
    | _, isFalse h2 => isFalse (fun h => h2 h.2)

instance decAscNat : (l : List Nat) → Decidable (AscNat l)
  | [] => isTrue trivial
  | [_] => isTrue trivial
  | a :: b :: rest =>
    match Nat.decLt a b, decAscNat (b :: rest) with
    | isTrue h1, isTrue h2 => isTrue ⟨h1, h2⟩
    | isFalse h1, _ => isFalse (fun h => h1 h.1)
    | _, isFalse h2 => isFalse (fun h => h2 h.2)

abbrev Iter := List (Bytes × Nat)

def keysOf (it : Iter) : List Bytes := it.map (·.1)

def ItSorted (it : Iter) : Prop := SortedLt (keysOf it)

theorem itSorted_cons {p : Bytes × Nat} {rest : Iter} :
    ItSorted (p :: rest) ↔ (∀ b ∈ keysOf rest, Bytes.lt p.1 b = true) ∧ ItSorted rest := by
  simp only [ItSorted, keysOf, List.map_cons, sortedLt_iff_pairwise, List.pairwise_cons]

def allKeys (its : List Iter) : List Bytes := its.flatMap keysOf

def keysUnion (its : List Iter) : List Bytes := sortDedup (allKeys its)

theorem mem_keysUnion {its : List Iter} {k : Bytes} : k ∈ keysUnion its ↔ ∃ it ∈ its, k ∈ keysOf it := by
  rw [keysUnion, mem_sortDedup, allKeys, List.mem_flatMap]

theorem sortedLt_keysUnion (its : List Iter) : SortedLt (keysUnion its) := sortedLt_sortDedup _

def row (its : List Iter) (k : Bytes) : List (Bytes × Nat × Nat) :=
  (its.zipIdx).filterMap (fun p => (lookup k p.1).map (fun v => (k, p.2, v)))

/-! ## One round: `updateMatches` finds the lowest current key and who carries it -/

private def headKey (it : Iter) : Option Bytes := it.head?.map (·.1)

/-- One step of `updateMatches`, as a function of the iterator's current key. -/
private def enumStep (skipEmpty : Bool) (acc : Option (Bytes × List Nat)) (p : Iter × Nat) :
    Option (Bytes × List Nat) :=
  match headKey p.1 with
  | none => acc
  | some k =>
    if k.isEmpty && skipEmpty then acc else
    match acc with
    | none => some (k, [p.2])
    | some (lowK, idxs) =>
      if Bytes.lt k lowK then some (k, [p.2])
      else if k = lowK then some (lowK, idxs ++ [p.2])
      else acc

private theorem enumLow_eq (skip : Bool) (its : List Iter) :
    enumLow skip its = (its.zipIdx).foldl (enumStep skip) none := by
  unfold enumLow
  congr
  funext acc p
  rcases p with ⟨_ | ⟨⟨k, v⟩, rest⟩, i⟩ <;> rfl

private def idxsOf (k : Bytes) (its : List Iter) : List Nat :=
  its.zipIdx.filterMap (fun p => if headKey p.1 = some k then some p.2 else none)

private theorem idxsOf_snoc (k : Bytes) (l : List Iter) (a : Iter) :
    idxsOf k (l ++ [a]) = idxsOf k l ++ (if headKey a = some k then [l.length] else []) := by
  unfold idxsOf
  rw [List.zipIdx_append, List.filterMap_append]
  simp only [List.zipIdx_cons, List.zipIdx_nil, Nat.zero_add]
  by_cases h : headKey a = some k <;> simp [h]

private theorem idxsOf_eq_nil {k : Bytes} {its : List Iter} (h : ∀ it ∈ its, headKey it ≠ some k) :
    idxsOf k its = [] := by
  unfold idxsOf
  rw [List.filterMap_eq_nil_iff]
  intro p hp
  rw [if_neg (h p.1 (List.fst_mem_of_mem_zipIdx hp))]

private theorem mem_idxsOf {k : Bytes} {its : List Iter} {i : Nat} :
    i ∈ idxsOf k its ↔ ∃ it, its[i]? = some it ∧ headKey it = some k := by
  unfold idxsOf
  rw [List.mem_filterMap]
  constructor
  · rintro ⟨p, hp, he⟩
    split at he
    · next hk => exact ⟨p.1, Option.some.inj he ▸ List.mem_zipIdx_iff_getElem?.1 hp, hk⟩
    · cases he
  · rintro ⟨it, hi, hk⟩
    exact ⟨(it, i), List.mem_zipIdx_iff_getElem?.2 hi, if_pos hk⟩

private def NotBelow (k : Bytes) (it : Iter) : Prop := ∀ h, headKey it = some h → Bytes.lt h k = false

private theorem notBelow_of_none {a : Iter} (k : Bytes) (hh : headKey a = none) : NotBelow k a :=
  fun h e => by rw [hh] at e; cases e

private theorem notBelow_iff {a : Iter} {k' : Bytes} (hh : headKey a = some k') (k : Bytes) :
    NotBelow k a ↔ Bytes.lt k' k = false := by
  unfold NotBelow
  rw [hh]
  exact ⟨fun h => h k' rfl, fun h _ e => Option.some.inj e ▸ h⟩

/-- What `updateMatches(false)` computes: nothing when no iterator has a current key, else the
    lowest current key and the iterators, in order, that are at it. -/
private def LowSpec (its : List Iter) : Option (Bytes × List Nat) → Prop
  | none => ∀ it ∈ its, headKey it = none
  | some (k, idxs) => idxs = idxsOf k its ∧ (∃ it ∈ its, headKey it = some k) ∧
      ∀ it ∈ its, NotBelow k it

private theorem enumLow_false_spec (its : List Iter) : LowSpec its (enumLow false its) := by
  rw [enumLow_eq]
  induction its using List.rev_induction with
  | nil => intro it h; cases h
  | snoc l a ih =>
    rw [List.zipIdx_append, List.foldl_append]
    simp only [List.zipIdx_cons, List.zipIdx_nil, List.foldl_cons, List.foldl_nil, Nat.zero_add]
    generalize List.foldl (enumStep false) none l.zipIdx = r at ih
    unfold enumStep
    cases hh : headKey a with
    | none =>
      -- an exhausted iterator changes nothing
      cases r with
      | none => exact List.forall_mem_push ih hh
      | some kv =>
        obtain ⟨h1, ⟨it, hit, hk⟩, h3⟩ := ih
        refine ⟨?_, ⟨it, List.mem_append_left _ hit, hk⟩, List.forall_mem_push h3 (notBelow_of_none _ hh)⟩
        rw [idxsOf_snoc, ← h1, hh, if_neg (by simp), List.append_nil]
    | some k' =>
      have hlast : ∃ it ∈ l ++ [a], headKey it = some k' := ⟨a, by simp, hh⟩
      have hself : NotBelow k' a := (notBelow_iff hh k').2 (Bytes.lt_irrefl k')
      simp only [Bool.and_false, Bool.false_eq_true, if_false]
      cases r with
      | none =>
        -- the first current key met
        refine ⟨?_, hlast, List.forall_mem_push (fun it hit => notBelow_of_none k' (ih it hit)) hself⟩
        rw [idxsOf_snoc, idxsOf_eq_nil (fun it hit e => by rw [ih it hit] at e; cases e), hh, if_pos rfl]
        rfl
      | some kv =>
        obtain ⟨k, idxs⟩ := kv
        obtain ⟨h1, ⟨it, hit, hk⟩, h3⟩ := ih
        simp only
        by_cases hlt : Bytes.lt k' k = true
        · -- a lower key: start afresh
          rw [if_pos hlt]
          refine ⟨?_, hlast, List.forall_mem_push (fun it hit h e => ?_) hself⟩
          · rw [idxsOf_snoc, idxsOf_eq_nil (fun it hit e => by rw [h3 it hit k' e] at hlt; cases hlt),
              hh, if_pos rfl]
            rfl
          · cases hx : Bytes.lt h k' with
            | false => rfl
            | true =>
              have := Bytes.lt_trans hx hlt
              rw [h3 it hit h e] at this
              cases this
        · rw [if_neg hlt]
          have hlt' : NotBelow k a := (notBelow_iff hh k).2 (by simpa using hlt)
          by_cases heq : k' = k
          · -- the same key: one more carrier
            subst heq
            rw [if_pos rfl]
            refine ⟨?_, hlast, List.forall_mem_push h3 hlt'⟩
            rw [idxsOf_snoc, ← h1, hh, if_pos rfl]
          · -- a higher key: nothing changes
            rw [if_neg heq]
            refine ⟨?_, ⟨it, List.mem_append_left _ hit, hk⟩, List.forall_mem_push h3 hlt'⟩
            rw [idxsOf_snoc, ← h1, hh, if_neg (by simpa using heq), List.append_nil]

private theorem enumLow_skip_eq (skip : Bool) (its : List Iter)
    (h : skip = true → ∀ it ∈ its, headKey it ≠ some []) :
    enumLow skip its = enumLow false its := by
  rw [enumLow_eq, enumLow_eq]
  apply List.foldl_congr_mem
  intro acc p hp
  cases skip with
  | false => rfl
  | true =>
    have := h rfl p.1 (List.fst_mem_of_mem_zipIdx hp)
    unfold enumStep
    cases hk : headKey p.1 with
    | none => rfl
    | some k =>
      have : k.isEmpty = false := by
        cases k with
        | nil => exact absurd hk this
        | cons _ _ => rfl
      simp only [this, Bool.false_and]

private def advOne (k : Bytes) (it : Iter) : Iter := if headKey it = some k then it.tail else it

private def adv (k : Bytes) (its : List Iter) : List Iter := its.map (advOne k)

private theorem advOne_cons (k : Bytes) (p : Bytes × Nat) (rest : Iter) :
    advOne k (p :: rest) = if p.1 = k then rest else p :: rest := by
  simp [advOne, headKey]

private theorem advOne_sorted {k : Bytes} {it : Iter} (hs : ItSorted it) : ItSorted (advOne k it) := by
  unfold advOne
  split
  · cases it with
    | nil => exact hs
    | cons p rest => exact sortedLt_tail hs
  · exact hs

private theorem lt_head {k : Bytes} {p : Bytes × Nat} {rest : Iter}
    (hmin : NotBelow k (p :: rest)) (hk : p.1 ≠ k) :
    Bytes.lt k p.1 = true :=
  (Bytes.lt_trichotomy k p.1).resolve_right fun h =>
    h.elim (fun e => hk e.symm) fun h => by rw [hmin p.1 rfl] at h; cases h

private theorem advOne_keys_gt {k : Bytes} {it : Iter} (hs : ItSorted it)
    (hmin : NotBelow k it) :
    ∀ key ∈ keysOf (advOne k it), Bytes.lt k key = true := by
  cases it with
  | nil => intro key hk; cases hk
  | cons p rest =>
    obtain ⟨h1, _⟩ := itSorted_cons.1 hs
    rw [advOne_cons]
    split
    · next hk => exact hk ▸ h1
    · next hk =>
      intro key hkey
      rcases List.mem_cons.1 hkey with rfl | hm
      · exact lt_head hmin hk
      · exact Bytes.lt_trans (lt_head hmin hk) (h1 key hm)

private theorem lookup_min {k : Bytes} {it : Iter} (hs : ItSorted it)
    (hmin : NotBelow k it) :
    lookup k it = if headKey it = some k then it.head?.map (·.2) else none := by
  cases it with
  | nil => rfl
  | cons p rest =>
    by_cases hk : p.1 = k
    · subst hk; simp [lookup_cons, headKey]
    · have hne : ¬ (headKey (p :: rest) = some k) := by simpa [headKey] using hk
      rw [lookup_cons, if_neg (Ne.symm hk), if_neg hne, lookup_eq_none_iff]
      have hgt := advOne_keys_gt hs hmin
      rw [advOne_cons, if_neg hk] at hgt
      intro hm
      have := hgt k (List.mem_cons_of_mem _ hm)
      rw [Bytes.lt_irrefl] at this
      cases this

private theorem keysOf_advOne (k : Bytes) (it : Iter) :
    keysOf it = (if headKey it = some k then [k] else []) ++ keysOf (advOne k it) := by
  cases it with
  | nil => simp [keysOf, advOne, headKey]
  | cons p rest =>
    rw [advOne_cons]
    by_cases hk : p.1 = k <;> simp [keysOf, headKey, hk]

private theorem lookup_advOne {k k' : Bytes} (hne : k' ≠ k) (it : Iter) :
    lookup k' (advOne k it) = lookup k' it := by
  cases it with
  | nil => rfl
  | cons p rest =>
    rw [advOne_cons]
    split
    · next hk => rw [lookup_cons, if_neg (hk ▸ hne)]
    · rfl

/-- The `out` of one round of `enumerate`'s loop is the row of the lowest key. -/
private theorem out_eq_row {k : Bytes} {its : List Iter} (hs : ∀ it ∈ its, ItSorted it)
    (hmin : ∀ it ∈ its, NotBelow k it) :
    (idxsOf k its).map (fun i => (k, i, ((its.getD i []).headD ([], 0)).2)) = row its k := by
  unfold idxsOf row
  rw [List.map_filterMap]
  apply List.filterMap_congr_mem
  intro p hp
  have hmem := List.fst_mem_of_mem_zipIdx hp
  rw [lookup_min (hs _ hmem) (hmin _ hmem)]
  have hgd : its.getD p.2 [] = p.1 := by
    rw [List.getD_eq_getElem?_getD, List.mem_zipIdx_iff_getElem?.1 hp]
    rfl
  by_cases hh : headKey p.1 = some k
  · rw [if_pos hh, if_pos hh]
    simp only [Option.map_some, hgd]
    cases hp1 : p.1 with
    | nil => rw [hp1] at hh; cases hh
    | cons q rest => rfl
  · rw [if_neg hh, if_neg hh]; rfl

/-- The `its'` of that round: the iterators at the lowest key, advanced. -/
private theorem adv_eq {k : Bytes} {its : List Iter} :
    (its.zipIdx).map (fun p => if (idxsOf k its).contains p.2 then p.1.tail else p.1) = adv k its := by
  have h0 : adv k its = (its.zipIdx).map (fun p => advOne k p.1) := by
    unfold adv
    conv => lhs; rw [← List.zipIdx_map_fst (l := its) (i := 0)]
    rw [List.map_map]; rfl
  rw [h0]
  apply List.map_congr_left
  intro p hp
  have hget := List.mem_zipIdx_iff_getElem?.1 hp
  refine ite_congr (propext ?_) (fun _ => rfl) (fun _ => rfl)
  rw [List.contains_iff_mem, mem_idxsOf]
  exact ⟨fun ⟨it, hi, hk⟩ => Option.some.inj (hget.symm.trans hi) ▸ hk, fun hk => ⟨p.1, hget, hk⟩⟩

private theorem row_adv {k k' : Bytes} (hne : k' ≠ k) (its : List Iter) : row (adv k its) k' = row its k' := by
  unfold row adv
  rw [List.zipIdx_map, List.filterMap_map]
  apply List.filterMap_congr_mem
  intro p _
  simp only [Function.comp, Prod.map, id]
  rw [lookup_advOne hne]

private theorem mem_keysUnion_adv {k : Bytes} {its : List Iter} (hex : ∃ it ∈ its, headKey it = some k)
    (x : Bytes) : x ∈ keysUnion its ↔ x = k ∨ x ∈ keysUnion (adv k its) := by
  simp only [mem_keysUnion, adv, List.mem_map]
  constructor
  · rintro ⟨it, hit, hx⟩
    rw [keysOf_advOne k it] at hx
    rcases List.mem_append.1 hx with h | h
    · left
      split at h
      · exact List.mem_singleton.1 h
      · cases h
    · exact Or.inr ⟨advOne k it, ⟨it, hit, rfl⟩, h⟩
  · rintro (rfl | ⟨it', ⟨it, hit, rfl⟩, hx⟩)
    · obtain ⟨it, hit, hh⟩ := hex
      refine ⟨it, hit, ?_⟩
      rw [keysOf_advOne x it, if_pos hh]
      exact List.mem_append_left _ List.mem_cons_self
    · refine ⟨it, hit, ?_⟩
      rw [keysOf_advOne k it]
      exact List.mem_append_right _ hx

/-- Both sides are ascending and have the same members. -/
private theorem keysUnion_step {k : Bytes} {its : List Iter} (hs : ∀ it ∈ its, ItSorted it)
    (hmin : ∀ it ∈ its, NotBelow k it)
    (hex : ∃ it ∈ its, headKey it = some k) :
    keysUnion its = k :: keysUnion (adv k its) := by
  refine (sortedLt_keysUnion its).ext ?_ (fun x => by rw [mem_keysUnion_adv hex, List.mem_cons])
  rw [sortedLt_iff_pairwise, List.pairwise_cons]
  refine ⟨fun b hb => ?_, sortedLt_iff_pairwise.1 (sortedLt_keysUnion _)⟩
  obtain ⟨it', hit', hx⟩ := mem_keysUnion.1 hb
  obtain ⟨it, hit, rfl⟩ := List.mem_map.1 hit'
  exact advOne_keys_gt (hs it hit) (hmin it hit) b hx

/-- The union has at most as many keys as the iterators have entries: the fuel `enumerate` starts
    with, less one. -/
private theorem length_keysUnion_le (its : List Iter) :
    (keysUnion its).length ≤ (its.map List.length).foldl (· + ·) 0 := by
  rw [← List.sum_eq_foldl_nat]
  refine Nat.le_trans
    ((sortedLt_keysUnion its).nodup.length_le_of_subset fun k hk => mem_sortDedup.1 hk) ?_
  simp [allKeys, keysOf]

/-- Each round emits the row of the least remaining key, so `fuel` only has to exceed their number.
    Rounds after the first skip the empty key (`!first`); being the least key of all, it is gone by
    then (`hne`). -/
private theorem enumerate_go_spec (fuel : Nat) (first : Bool) (its : List Iter)
    (hs : ∀ it ∈ its, ItSorted it)
    (hne : first = false → ∀ it ∈ its, [] ∉ keysOf it)
    (hfuel : (keysUnion its).length < fuel) :
    enumerate.go fuel first its = (keysUnion its).flatMap (row its) := by
  induction fuel generalizing first its with
  | zero => exact absurd hfuel (Nat.not_lt_zero _)
  | succ fuel ih =>
    unfold enumerate.go
    have hskip : enumLow (!first) its = enumLow false its := by
      apply enumLow_skip_eq
      intro hf it hit hh
      refine hne (by simpa using hf) it hit ?_
      rw [keysOf_advOne [] it, if_pos hh]
      exact List.mem_append_left _ List.mem_cons_self
    rw [hskip]
    have hspec := enumLow_false_spec its
    cases hr : enumLow false its with
    | none =>
      rw [hr] at hspec
      have : keysUnion its = [] := List.eq_nil_iff_forall_not_mem.2 fun k hk => by
        obtain ⟨it, hit, hx⟩ := mem_keysUnion.1 hk
        have hnone := hspec it hit
        cases it with
        | nil => cases hx
        | cons p rest => cases hnone
      rw [this, List.flatMap_nil]
    | some kv =>
      obtain ⟨k, idxs⟩ := kv
      rw [hr] at hspec
      obtain ⟨h1, hex, h3⟩ := hspec
      have hstep := keysUnion_step hs h3 hex
      have hgt : ∀ it' ∈ adv k its, ∀ key ∈ keysOf it', Bytes.lt k key = true :=
        List.forall_mem_map.2 fun it hit => advOne_keys_gt (hs it hit) (h3 it hit)
      simp only
      rw [h1, out_eq_row hs h3, adv_eq]
      rw [ih false (adv k its) (List.forall_mem_map.2 fun it hit => advOne_sorted (hs it hit))
        (by intro _ it' hit' hmem
            have := hgt it' hit' [] hmem
            rw [Bytes.not_lt_nil] at this; cases this)
        (by rw [hstep, List.length_cons] at hfuel; exact Nat.lt_of_succ_lt_succ hfuel)]
      rw [hstep, List.flatMap_cons]
      refine congrArg (row its k ++ ·) ?_
      apply List.flatMap_congr_mem
      intro k' hk'
      obtain ⟨it', hit', hx⟩ := mem_keysUnion.1 hk'
      exact row_adv (Bytes.ne_of_lt (hgt it' hit' k' hx)).symm its

theorem enumerate_eq (its : List Iter) (hs : ∀ it ∈ its, ItSorted it) :
    enumerate its = (keysUnion its).flatMap (row its) :=
  enumerate_go_spec _ true its hs (fun h => by cases h) (Nat.lt_succ_of_le (length_keysUnion_le its))

theorem mem_row {its : List Iter} {k : Bytes} {t : Bytes × Nat × Nat} :
    t ∈ row its k ↔ t.1 = k ∧ ∃ it, its[t.2.1]? = some it ∧ lookup k it = some t.2.2 := by
  obtain ⟨k', i, v⟩ := t
  simp only [row, List.mem_filterMap, Option.map_eq_some_iff, Prod.exists, List.mem_zipIdx_iff_getElem?,
    Prod.mk.injEq]
  constructor
  · rintro ⟨it, j, hj, v', hl, rfl, rfl, rfl⟩
    exact ⟨rfl, it, hj, hl⟩
  · rintro ⟨rfl, it, hj, hl⟩
    exact ⟨it, i, hj, v, hl, rfl, rfl, rfl⟩

/-- Part (c) of `enumerate_spec` (Props/C06.lean). -/
theorem mem_enumerate {its : List Iter} (hs : ∀ it ∈ its, ItSorted it) (k : Bytes) (i v : Nat) :
    (k, i, v) ∈ enumerate its ↔ ∃ it, its[i]? = some it ∧ (k, v) ∈ it := by
  rw [enumerate_eq its hs, List.mem_flatMap]
  constructor
  · rintro ⟨k', _, hrow⟩
    obtain ⟨rfl, it, hget, hl⟩ := mem_row.1 hrow
    exact ⟨it, hget, mem_of_lookup_eq_some hl⟩
  · rintro ⟨it, hget, hm⟩
    have hit : it ∈ its := List.mem_of_getElem? hget
    exact ⟨k, mem_keysUnion.2 ⟨it, hit, List.mem_map.2 ⟨(k, v), hm, rfl⟩⟩,
      mem_row.2 ⟨rfl, it, hget, lookup_eq_some_of_mem (hs it hit).nodup hm⟩⟩

private theorem row_ne_nil {its : List Iter} {k : Bytes} (hs : ∀ it ∈ its, ItSorted it)
    (hk : k ∈ keysUnion its) : row its k ≠ [] := by
  obtain ⟨it, hit, hx⟩ := mem_keysUnion.1 hk
  obtain ⟨p, hp, rfl⟩ := List.mem_map.1 hx
  obtain ⟨i, hi⟩ := List.mem_iff_getElem?.1 hit
  exact List.ne_nil_of_mem
    (mem_row.2 ⟨rfl, it, hi, lookup_eq_some_of_mem (hs it hit).nodup hp⟩ : (p.1, i, p.2) ∈ row its p.1)

private theorem row_eq_nil {its : List Iter} {k : Bytes} (hk : k ∉ keysUnion its) : row its k = [] := by
  rw [List.eq_nil_iff_forall_not_mem]
  intro t ht
  obtain ⟨_, it, hget, hl⟩ := mem_row.1 ht
  exact hk (mem_keysUnion.2 ⟨it, List.mem_of_getElem? hget,
    List.mem_map.2 ⟨_, mem_of_lookup_eq_some hl, rfl⟩⟩)

theorem eraseDups_blocks {α : Type} [BEq α] [LawfulBEq α] (ks : List α) (blk : α → List α)
    (hb : ∀ k ∈ ks, blk k ≠ [] ∧ ∀ x ∈ blk k, x = k) (hnd : ks.Nodup) :
    (ks.flatMap blk).eraseDups = ks := by
  induction ks with
  | nil => rfl
  | cons k ks ih =>
    rw [List.nodup_cons] at hnd
    obtain ⟨hne, hall⟩ := hb k List.mem_cons_self
    rw [List.flatMap_cons]
    cases hbk : blk k with
    | nil => exact absurd hbk hne
    | cons x xs =>
      have hx : x = k := hall x (by rw [hbk]; exact List.mem_cons_self)
      subst hx
      rw [List.cons_append, List.eraseDups_cons, List.filter_append]
      have h1 : xs.filter (fun b => !b == x) = [] := by
        rw [List.filter_eq_nil_iff]
        intro a ha
        have : a = x := hall a (by rw [hbk]; exact List.mem_cons_of_mem _ ha)
        simp [this]
      have h2 : (ks.flatMap blk).filter (fun b => !b == x) = ks.flatMap blk := by
        rw [List.filter_eq_self]
        intro a ha
        obtain ⟨k', hk', ha'⟩ := List.mem_flatMap.1 ha
        have : a = k' := (hb k' (List.mem_cons_of_mem _ hk')).2 a ha'
        subst this
        have : a ≠ x := fun e => hnd.1 (e ▸ hk')
        simp [this]
      rw [h1, h2, List.nil_append, ih (fun k' hk' => hb k' (List.mem_cons_of_mem _ hk')) hnd.2]

/-- In part (a) of `enumerate_spec`. -/
theorem enumerate_keys {its : List Iter} (hs : ∀ it ∈ its, ItSorted it) :
    ((enumerate its).map (·.1)).eraseDups = keysUnion its := by
  rw [enumerate_eq its hs, List.map_flatMap]
  refine eraseDups_blocks _ _ (fun k hk => ⟨fun h => ?_, fun x hx => ?_⟩) (sortedLt_keysUnion its).nodup
  · exact row_ne_nil hs hk (List.map_eq_nil_iff.1 h)
  · obtain ⟨t, ht, rfl⟩ := List.mem_map.1 hx
    exact (mem_row.1 ht).1

theorem filter_flatMap_key {κ β : Type} [DecidableEq κ] (key : β → κ) (blk : κ → List β)
    (hb : ∀ a, ∀ x ∈ blk a, key x = a) {ks : List κ} (hnd : ks.Nodup) (k : κ)
    (hk : k ∉ ks → blk k = []) :
    (ks.flatMap blk).filter (fun x => key x = k) = blk k := by
  induction ks with
  | nil => simp [hk (by simp)]
  | cons a ks ih =>
    rw [List.nodup_cons] at hnd
    rw [List.flatMap_cons, List.filter_append]
    by_cases ha : a = k
    · subst ha
      have h1 : (blk a).filter (fun x => decide (key x = a)) = blk a := by
        rw [List.filter_eq_self]; intro x hx; simp [hb a x hx]
      have h2 : (ks.flatMap blk).filter (fun x => decide (key x = a)) = [] := by
        rw [List.filter_eq_nil_iff]
        intro x hx
        obtain ⟨k', hk', hx'⟩ := List.mem_flatMap.1 hx
        have hne : k' ≠ a := fun e => hnd.1 (e ▸ hk')
        simp [hb k' x hx', hne]
      rw [h1, h2, List.append_nil]
    · have h1 : (blk a).filter (fun x => decide (key x = k)) = [] := by
        rw [List.filter_eq_nil_iff]
        intro x hx
        simp [hb a x hx, ha]
      rw [h1, List.nil_append]
      exact ih hnd.2 fun h => hk fun hm => (List.mem_cons.1 hm).elim (fun e => ha e.symm) h

/-- Part (b) of `enumerate_spec`. -/
theorem enumerate_filter_key {its : List Iter} (hs : ∀ it ∈ its, ItSorted it) (k : Bytes) :
    (enumerate its).filter (fun t => t.1 = k) = row its k := by
  rw [enumerate_eq its hs]
  exact filter_flatMap_key (fun t : Bytes × Nat × Nat => t.1) (row its)
    (fun _ _ ht => (mem_row.1 ht).1) (sortedLt_keysUnion its).nodup k row_eq_nil

private theorem keysOf_keyColumn {β : Type} (t : List (Bytes × β)) :
    keysOf (t.map (fun x => (x.1, 0))) = t.map (·.1) := by
  unfold keysOf
  rw [List.map_map]
  rfl

/-- The `keys` of `mergeSegs` (per field, over the dictionaries) and of `mergeThes`: the enumerator
    run on the key columns of the inputs' tables `tbl p`. -/
def mergedKeys {ι β : Type} (tbl : ι → List (Bytes × β)) (parts : List ι) : List Bytes :=
  ((enumerate (parts.map (fun p => (tbl p).map (fun t => (t.1, 0))))).map (·.1)).eraseDups

theorem mergedKeys_eq {ι β : Type} (tbl : ι → List (Bytes × β)) (parts : List ι)
    (hs : ∀ p ∈ parts, SortedLt ((tbl p).map (·.1))) :
    mergedKeys tbl parts = keysUnion (parts.map (fun p => (tbl p).map (fun t => (t.1, 0)))) := by
  refine enumerate_keys (List.forall_mem_map.2 fun p hp => ?_)
  unfold ItSorted
  rw [keysOf_keyColumn]
  exact hs p hp

theorem mergedKeys_spec {ι β : Type} (tbl : ι → List (Bytes × β)) (parts : List ι)
    (hs : ∀ p ∈ parts, SortedLt ((tbl p).map (·.1))) :
    SortedLt (mergedKeys tbl parts) ∧
      ∀ k, k ∈ mergedKeys tbl parts ↔ ∃ p ∈ parts, k ∈ (tbl p).map (·.1) := by
  rw [mergedKeys_eq tbl parts hs]
  refine ⟨sortedLt_keysUnion _, fun k => ?_⟩
  rw [keysUnion, mem_sortDedup, allKeys, List.flatMap_map, List.mem_flatMap]
  simp only [keysOf_keyColumn]

end Zap.MergeL
