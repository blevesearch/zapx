/-
  ZapModel.Writer: BYTE-LEVEL models of the zapx v16 WRITERS (the counterpart of
  `ZapModel.Layout`, the independent decoder), plus list-level twins of Layout's
  array-based decoders (same reads, same checks, same order; `Bytes` instead of
  `ByteArray` + cursor; Layout's 10-byte / 64-bit uvarint rule: `uv64`).

  Writers modelled (Go source, read-only /repo):
    A  new.go `writeStoredFields` + build.go `persistStoredFieldValues`
         -> `encodeStoredDoc`
    B  section_inverted_text_index.go `writeDicts` (per-term loop) through
       intcoder.go `chunkedIntCoder` (`Codec.intCoderEncode`)
         -> `encodeFreqNorm`, `encodeLocs`;  merge.go `writePostings` (general encoding) +
       intcoder.go `writeAt` -> `writePostings`, `locStream?`

  Theorems (ZapProofs/Writer/*.lean, ZapProofs/Props/C09Bytes.lean):
    - the twins invert the writers (`decodeEntriesL`, `decodeStoredDocL`);
    - for EVERY `ByteArray`, what a twin accepts Layout's own function accepts with the
      same result (simulation), hence
    - Layout's own functions invert the writers.
-/
import ZapModel.Types
import ZapModel.Codec
import ZapModel.Gen.Pure

namespace Zap.Writer
open Zap Zap.Codec

/-! ## B. posting streams (writer) -/

/-- `freqNorm.numLocs > 0`. -/
def hasLocs (e : Entry) : Bool := !e.locs.isEmpty

/-- The values of the `tfEncoder.Add(docNum, ...)` call for one posting: the norm is
    left out when `freq = 0`. -/
def freqVals (e : Entry) : List Nat :=
  if e.freq = 0 then [Gen.encodeFreqHasLocs e.freq (hasLocs e)]
  else [Gen.encodeFreqHasLocs e.freq (hasLocs e), e.norm]

def freqAdds (es : List Entry) : List (Nat × List Nat) := es.map (fun e => (e.doc, freqVals e))

/-- `locEncoder.Add(docNum, fieldID, pos, start, end, len(arrayposs))`. -/
def locHead (l : MLoc) : List Nat := [l.fid, l.pos, l.start, l.stop, l.ap.length]

/-- new.go `totalUvarintBytes`. -/
def totalUvarintBytes (vs : List Nat) : Nat := (vs.map numUvarintBytes).sum

/-- `numBytesLocs` of the writer loop. -/
def numLocsBytes (ls : List MLoc) : Nat :=
  (ls.map (fun l => totalUvarintBytes (locHead l ++ l.ap))).sum

/-- The `locEncoder.Add` calls for one posting (none when it has no locations). -/
def locAddsOf (e : Entry) : List (Nat × List Nat) :=
  if e.locs.isEmpty then []
  else (e.doc, [numLocsBytes e.locs]) ::
    e.locs.flatMap (fun l => [(e.doc, locHead l), (e.doc, l.ap)])

def locAdds (es : List Entry) : List (Nat × List Nat) := es.flatMap locAddsOf

/-- The freq/norm stream of a postings list (`tfEncoder` after `Close`, `Write`). -/
def encodeFreqNorm (cs maxDoc : Nat) (es : List Entry) : Bytes :=
  intCoderEncode cs maxDoc (freqAdds es)

/-- The location stream (`locEncoder` after `Close`, `Write`). -/
def encodeLocs (cs maxDoc : Nat) (es : List Entry) : Bytes :=
  intCoderEncode cs maxDoc (locAdds es)

/-- `chunkedIntCoder.final` after the adds and `Close`. -/
def coderFinal (cs maxDoc : Nat) (adds : List (Nat × List Nat)) : Bytes :=
  ((adds.foldl (fun c a => c.add a.1 a.2) (IntCoder.new cs maxDoc)).close).final

/-- intcoder.go `writeAt`: nothing is written and offset 0 (`termNotEncoded`) is returned
    when `final` is empty; otherwise the stream is written at the current count. -/
def writeAt (count cs maxDoc : Nat) (adds : List (Nat × List Nat)) : Nat × Bytes :=
  if coderFinal cs maxDoc adds = [] then (0, []) else (count, intCoderEncode cs maxDoc adds)

/-- The location stream as `writeAt` leaves it: `none` = offset 0 = not written. -/
def locStream? (cs maxDoc : Nat) (es : List Entry) : Option Bytes :=
  if coderFinal cs maxDoc (locAdds es) = [] then none else some (encodeLocs cs maxDoc es)

structure PostingsOut where
  bytes : Bytes          -- everything appended to the file
  tfOffset : Nat
  locOffset : Nat
  postingsOffset : Nat   -- the FST value (general encoding)
  deriving Repr, DecidableEq

/-- merge.go `writePostings` (general encoding) with `count` bytes already written:
    freq/norm stream, location stream, then the record
    uvarint tfOffset, uvarint locOffset, uvarint len(roaring), roaring bytes. -/
def writePostings (count cs maxDoc : Nat) (es : List Entry) (roaring : Bytes) : PostingsOut :=
  let tf := writeAt count cs maxDoc (freqAdds es)
  let lc := writeAt (count + tf.2.length) cs maxDoc (locAdds es)
  let po := count + tf.2.length + lc.2.length
  { bytes := tf.2 ++ lc.2 ++ putUvarint tf.1 ++ putUvarint lc.1 ++ putUvarint roaring.length ++ roaring,
    tfOffset := tf.1, locOffset := lc.1, postingsOffset := po }

/-! ## uvarints as Layout reads them -/

/-- Twin of `Layout.uvLim.go`: at most `fuel` more bytes, the 10th at most 1 (Go's
    `binary.Uvarint` overflow rule). -/
def uv64Go : Nat → Bytes → Nat → Nat → Option (Nat × Bytes)
  | 0, _, _, _ => none
  | _ + 1, [], _, _ => none
  | fuel + 1, x :: r, sh, acc =>
    if x < 128 then
      if fuel = 0 ∧ x > 1 then none else some (acc + (x <<< sh), r)
    else uv64Go fuel r (sh + 7) (acc + ((x - 128) <<< sh))

/-- Twin of `Layout.uvLim` on the bytes of the region: value and remaining bytes. -/
def uv64 (bs : Bytes) : Option (Nat × Bytes) := uv64Go 10 bs 0 0

/-- `n` uvarints in a row. -/
def readN64 : Nat → Bytes → Option (List Nat × Bytes)
  | 0, bs => some ([], bs)
  | n + 1, bs =>
    match uv64 bs with
    | none => none
    | some (v, r) =>
      match readN64 n r with
      | none => none
      | some (vs, r') => some (v :: vs, r')

/-! ## B. posting streams (list-level twin of Layout's `readChunks`, `walkChunks`,
    `decFreq`, `decLocs`, and of the zipping loop of `decPostings`) -/

def nondec : List Nat → Bool
  | a :: b :: rest => a ≤ b && nondec (b :: rest)
  | _ => true

/-- Twin of `Layout.readChunks`: (END offsets, the bytes after the table). -/
def readChunksL (stream : Bytes) : Option (List Nat × Bytes) :=
  match uv64 stream with
  | none => none
  | some (n, rest) =>
    match readN64 n rest with
    | none => none
    | some (offs, data) =>
      if !nondec offs then none
      else if offs.getLastD 0 > data.length then none
      else some (offs, data)

def cstart (offs : List Nat) (k : Nat) : Nat := (chunkBoundary offs k).1
def cstop (offs : List Nat) (k : Nat) : Nat := (chunkBoundary offs k).2

/-- The bytes of chunk `k`. -/
def chunkBytes (offs : List Nat) (data : Bytes) (k : Nat) : Bytes :=
  (data.drop (cstart offs k)).take (cstop offs k - cstart offs k)

/-- Twin of the loop of `Layout.walkChunks`: `ci` the current chunk, `cur` what is left
    of it. -/
def walkL {α : Type} (offs : List Nat) (data : Bytes) (cs : Nat)
    (dec : Nat → Bytes → Option (α × Bytes)) : List Nat → Nat → Bytes → Option (List α)
  | [], ci, cur =>
    if cur = [] ∧ (offs.length = 0 ∨ cstop offs (offs.length - 1) = cstop offs ci) then some []
    else none
  | d :: ds, ci, cur =>
    let c := d / cs
    if c ≥ offs.length then none
    else if c = ci then
      match dec d cur with
      | none => none
      | some (a, cur') => (walkL offs data cs dec ds ci cur').map (a :: ·)
    else if c < ci ∨ cur ≠ [] ∨ cstart offs c ≠ cstop offs ci then none
    else
      match dec d (chunkBytes offs data c) with
      | none => none
      | some (a, cur') => (walkL offs data cs dec ds c cur').map (a :: ·)

/-- Twin of `Layout.readChunks` + `Layout.walkChunks`. -/
def walkChunksL {α : Type} (cs : Nat) (stream : Bytes) (docs : List Nat)
    (dec : Nat → Bytes → Option (α × Bytes)) : Option (List α) :=
  if cs = 0 then none else
  match readChunksL stream with
  | none => none
  | some (offs, data) => walkL offs data cs dec docs 0 (chunkBytes offs data 0)

/-- Twin of `Layout.decFreq`: (freq, norm, hasLocs). -/
def decFreqL (_doc : Nat) (cur : Bytes) : Option ((Nat × Nat × Bool) × Bytes) :=
  match uv64 cur with
  | none => none
  | some (v, r) =>
    let fh := Gen.decodeFreqHasLocs v
    if fh.1 ≠ 0 then
      match uv64 r with
      | none => none
      | some (nb, r') => some ((fh.1, nb, fh.2), r')
    else some ((0, 0, fh.2), r)

/-- One location: fieldID, pos, start, end, numArrayPos, arrayPos... -/
def readLoc (maxAp : Nat) (bs : Bytes) : Option (MLoc × Bytes) :=
  match readN64 5 bs with
  | some ([fid, pos, st, en, nap], r) =>
    if nap > maxAp then none else
    match readN64 nap r with
    | none => none
    | some (aps, r') => some ({ fid := fid, pos := pos, start := st, stop := en, ap := aps }, r')
  | _ => none

/-- Locations until the block is used up (at most `fuel` of them). -/
def parseLocs (maxAp : Nat) : Nat → Bytes → Option (List MLoc)
  | 0, bs => if bs = [] then some [] else none
  | fuel + 1, bs =>
    if bs = [] then some [] else
    match readLoc maxAp bs with
    | none => none
    | some (l, r) => (parseLocs maxAp fuel r).map (l :: ·)

/-- Twin of `Layout.decLocs`: uvarint numLocsBytes, then exactly that many bytes of
    locations.  The remainder is what `SkipBytes(numLocsBytes)` leaves. -/
def decLocsL (_doc : Nat) (cur : Bytes) : Option (List MLoc × Bytes) :=
  match uv64 cur with
  | none => none
  | some (nbytes, r) =>
    if nbytes > r.length then none else
    match parseLocs nbytes nbytes (r.take nbytes) with
    | none => none
    | some ls => some (ls, r.drop nbytes)

/-- Twin of the last loop of `Layout.decPostings`. -/
def zipLocs : List (Nat × (Nat × Nat × Bool)) → List (List MLoc) → Option (List Entry)
  | [], _ => some []
  | (d, f, n, true) :: fs, l :: rest =>
    (zipLocs fs rest).map ({ doc := d, freq := f, norm := n, locs := l } :: ·)
  | (_, _, _, true) :: _, [] => none
  | (d, f, n, false) :: fs, rest =>
    (zipLocs fs rest).map ({ doc := d, freq := f, norm := n, locs := [] } :: ·)

/-- Twin of `Layout.decPostings` after the record header and the bitmap: decode the
    entries of the documents `docs` from the freq/norm stream and the location stream
    (`none` = location offset 0). -/
def decodeEntriesL (cs : Nat) (docs : List Nat) (fstream : Bytes) (lstream : Option Bytes) :
    Option (List Entry) :=
  match walkChunksL cs fstream docs decFreqL with
  | none => none
  | some fs =>
    let items := docs.zip fs
    let locDocs := (items.filter (·.2.2.2)).map (·.1)
    match lstream with
    | none => if locDocs.isEmpty then zipLocs items [] else none
    | some ls =>
      match walkChunksL cs ls locDocs decLocsL with
      | none => none
      | some lss => zipLocs items lss

/-! ## A. stored documents (writer) -/

/-- Meta entry of one stored value: fieldID, type, offset, length, numArrayPos, arrayPos... -/
def valMeta (curr : Nat) (v : StoredVal) : List Nat :=
  [v.fid, v.typ, curr, v.val.length, v.ap.length] ++ v.ap

/-- `persistStoredFieldValues` over all values of the document; `curr` runs over ALL
    values. -/
def metaVals : Nat → List StoredVal → List Nat
  | _, [] => []
  | curr, v :: vs => valMeta curr v ++ metaVals (curr + v.val.length) vs

def storedData (vals : List StoredVal) : Bytes := vals.flatMap (·.val)

def storedMeta (sd : StoredDoc) : Bytes :=
  putUvarint sd.id.length ++ putUvarints (metaVals 0 sd.vals)

/-- new.go `writeStoredFields`, one document. -/
def encodeStoredDoc (compress : Bytes → Bytes) (sd : StoredDoc) : Bytes :=
  let comp := compress (storedData sd.vals)
  putUvarint (storedMeta sd).length ++ putUvarint (sd.id.length + comp.length) ++
    storedMeta sd ++ sd.id ++ comp

/-! ## A. stored documents (list-level twin of `Layout.decStoredDoc`) -/

/-- Twin of `Layout.uvAll`: all uvarints of a byte string, a truncated tail is an error. -/
def uvAllL : Nat → Bytes → Option (List Nat)
  | 0, _ => some []
  | fuel + 1, bs =>
    match bs with
    | [] => some []
    | _ => match uvarint bs with
      | none => none
      | some (v, rest) => (uvAllL fuel rest).map (v :: ·)

/-- Twin of `Layout.decStoredDoc.go`. -/
def storedGroups (raw : Bytes) : Nat → List Nat → Option (List StoredVal)
  | 0, _ => some []
  | fuel + 1, g =>
    match g with
    | [] => some []
    | fid :: typ :: o :: l :: nap :: rest =>
      if rest.length < nap then none
      else if o + l > raw.length then none
      else (storedGroups raw fuel (rest.drop nap)).map
        ({ fid := fid, typ := typ, val := (raw.drop o).take l, ap := rest.take nap } :: ·)
    | _ => none

/-- Twin of `Layout.decStoredDoc`: the record at offset `off` of the file `bs`. -/
def decodeStoredDocL (bs : Bytes) (off : Nat) : Option StoredDoc :=
  match uv64 (bs.drop off) with
  | none => none
  | some (ml, r1) =>
    match uv64 r1 with
    | none => none
    | some (dl, r2) =>
      if ml + dl > r2.length then none else
      match uvAllL (ml + 1) (r2.take ml) with
      | none => none
      | some [] => none
      | some (idLen :: groups) =>
        if idLen > dl then none else
        let dat := (r2.drop ml).take dl
        match snappyDecode (dat.drop idLen) with
        | none => none
        | some raw =>
          match storedGroups raw (groups.length + 1) groups with
          | none => none
          | some vals => some { id := dat.take idLen, vals := vals }

/-- Where the record at `off` keeps its snappy block: (start, end) file offsets (the same
    reads as `decodeStoredDocL`). -/
def storedBlockL (bs : Bytes) (off : Nat) : Option (Nat × Nat) :=
  match uv64 (bs.drop off) with
  | none => none
  | some (ml, r1) =>
    match uv64 r1 with
    | none => none
    | some (dl, r2) =>
      match uvAllL (ml + 1) (r2.take ml) with
      | some (idLen :: _) =>
        some (bs.length - r2.length + ml + idLen, bs.length - r2.length + ml + dl)
      | _ => none

end Zap.Writer
