/-
  ZapModel.VecSearch: zapx's own logic around the (abstract) nearest-neighbour engine.

    faiss_vector_posting.go   InterpretVectorIndex: `search`, `searchWithFilter`,
                              `addIDsToPostingsList`, `getVectorCode`, `VecPostingsIterator`
    faiss_vector_cache.go     `createAndCacheLOCKED` (the id -> doc table), `getVecIDsToExclude`,
                              `cacheEntry.load` / `decRef`, `cleanup`, `Clear`

  The engine (FAISS) is a PARAMETER: `Engine` is two functions, `EngineOK` their contract
  ("exact index": a best-k selection of the selected ids with their true scores).  `refEngine`
  is an executable engine which satisfies the contract (proved in ZapProofs.Vec.Search), so
  the contract is satisfiable and the examples compute.

  NOT MODELLED
  * the clustered (IVF) branch of `searchWithFilter` (cluster selection, nprobe, include /
    exclude selector choice): a clustered index is only sound, not exact; the differential
    run checks it with `soundHits` only;
  * `float32`: scores are exact integers (generated vector components are small integers);
    `bits : Int → Nat` stands for `math.Float32bits(float32 score)`;
  * engine errors (`err != nil` returns);
  * eviction timing of the cache monitor (an EWMA in floats): a `tick` may evict ANY set of
    fields that is legal per `VCache.tickLegal` (refs ≤ 0).  The harness reports what the
    real tick evicted, the model checks legality.
-/
import ZapModel.Vector
import ZapModel.Gen.Pure

namespace Zap.VecSearch

/-! ### Index content and the two id tables -/

/-- (vector id, document, vector); vector ids are distinct (a side condition of the theorems) -/
abbrev Content := List (Nat × Nat × List Int)

structure VIndex where
  dim : Nat
  metric : Nat
  content : Content
  deriving Repr, DecidableEq, Inhabited

/-- the id-free view used by `admissible` / `validTopK` (ZapModel.Vector) -/
def VIndex.toVecIx (ix : VIndex) (opt : Nat := 0) : VecIx :=
  { dim := ix.dim, metric := ix.metric, opt := opt, vecs := ix.content.map (·.2) }

/-- number the vectors of an id-free index by position (any assignment of distinct ids would
    do; the engine's ids are not observable through `search`) -/
def VIndex.ofVecIx (v : VecIx) : VIndex :=
  { dim := v.dim, metric := v.metric, content := v.vecs.zipIdx.map (fun p => (p.2, p.1)) }

/-- The engine, contract only: -/
structure Engine where
  /-- exact search among all ids not in `excl`: returns (id, score) pairs -/
  searchExcl : (q : List Int) → (k : Nat) → (excl : List Nat) → List (Nat × Int)
  /-- exact search among the ids in `incl` -/
  searchIncl : (q : List Int) → (k : Nat) → (incl : List Nat) → List (Nat × Int)

/-- `vecDocIDMap` as an association list (vector id, doc) -/
abbrev VMap := List (Nat × Nat)

/-- `createAndCacheLOCKED` after the fix: EVERY vector of the field, whatever `except` the
    creating call had. -/
def vecDocIDMap (c : Content) : VMap := c.map (fun t => (t.1, t.2.1))

/-- the table as built BEFORE the fix: vectors of documents in the creating call's
    `except` bitmap are left out (and the table is then shared with later callers) -/
def vecDocIDMapDefect (c : Content) (ex : List Nat) : VMap :=
  (c.filter (fun t => !ex.contains t.2.1)).map (fun t => (t.1, t.2.1))

/-- `vecDocIDMap[vecID]` -/
def lookupDoc : VMap → Nat → Option Nat
  | [], _ => none
  | (i, d) :: r, id => if i = id then some d else lookupDoc r id

/-- `docVecIDMap[doc]` (built from `vecDocIDMap` by `addDocVecIDMapToCacheLOCKED`, or by the
    same loop at creation) -/
def docVecIDs (m : VMap) (doc : Nat) : List Nat := (m.filter (fun p => p.2 == doc)).map (·.1)

/-- `getVecIDsToExclude` -/
def vecIDsToExclude (m : VMap) (ex : List Nat) : List Nat :=
  (m.filter (fun p => ex.contains p.2)).map (·.1)

/-! ### The engine contract -/

/-- `res` is an exact best-`k` selection among the vectors of `c` whose id satisfies `adm`. -/
structure ExactSel (c : Content) (metric : Nat) (q : List Int) (k : Nat) (adm : Nat → Bool)
    (res : List (Nat × Int)) : Prop where
  /-- each pair is (id, true score) of a selected vector -/
  sound : ∀ p ∈ res, ∃ d v, (p.1, d, v) ∈ c ∧ adm p.1 = true ∧ p.2 = vscore metric q v
  /-- no id twice -/
  nodup : (res.map (·.1)).Nodup
  /-- at most k -/
  atMost : res.length ≤ k
  /-- no omitted selected vector is strictly better than a returned one -/
  exact : ∀ p ∈ res, ∀ t ∈ c, adm t.1 = true → t.1 ∉ res.map (·.1) →
            vbetter metric (vscore metric q t.2.2) p.2 = false
  /-- as many as there are, up to k -/
  count : res.length = min k (c.filter (fun t => adm t.1)).length

/-- Contract of an engine holding the vectors of `ix` (only queries of the index dimension
    ever reach the engine). -/
def EngineOK (E : Engine) (ix : VIndex) : Prop :=
  ∀ q k, q.length = ix.dim →
    (∀ excl, ExactSel ix.content ix.metric q k (fun id => !excl.contains id) (E.searchExcl q k excl)) ∧
    (∀ incl, ExactSel ix.content ix.metric q k (fun id => incl.contains id) (E.searchIncl q k incl))

/-! ### A reference engine (exhaustive scan, stable insertion sort, first k) -/

def insertRes (metric : Nat) (p : Nat × Int) : List (Nat × Int) → List (Nat × Int)
  | [] => [p]
  | a :: r => if vbetter metric a.2 p.2 then a :: insertRes metric p r else p :: a :: r

def sortRes (metric : Nat) (l : List (Nat × Int)) : List (Nat × Int) :=
  l.foldr (insertRes metric) []

def refSelect (ix : VIndex) (q : List Int) (k : Nat) (adm : Nat → Bool) : List (Nat × Int) :=
  (sortRes ix.metric ((ix.content.filter (fun t => adm t.1)).map
    (fun t => (t.1, vscore ix.metric q t.2.2)))).take k

def refEngine (ix : VIndex) : Engine where
  searchExcl q k excl := refSelect ix q k (fun id => !excl.contains id)
  searchIncl q k incl := refSelect ix q k (fun id => incl.contains id)

/-! ### `search` / `searchWithFilter` -/

/-- `addIDsToPostingsList`: ids unknown to the table are skipped; the postings are a SET of
    codes (doc, score) - here in order of first insertion, `postingsCodes` sorts. -/
def addIDsToPostingsList (m : VMap) (res : List (Nat × Int)) : List VHit :=
  (res.filterMap (fun p => (lookupDoc m p.1).map (fun d => ({ doc := d, score := p.2 } : VHit)))).eraseDups

/-- the `search` closure over what `InterpretVectorIndex` captured: engine, dimension, the
    id table and the exclusion list -/
def searchCore (E : Engine) (dim : Nat) (m : VMap) (excl : List Nat) (q : List Int) (k : Nat) :
    List VHit :=
  if dim ≠ q.length then [] else addIDsToPostingsList m (E.searchExcl q k excl)

/-- the eligible documents that are not excluded (the fix of defect D12: the eligible set is the
    caller's and may name documents of the handle's exclusion bitmap; those stay excluded) -/
def liveEligible (exDocs eligible : List Nat) : List Nat :=
  eligible.filter (fun d => !exDocs.contains d)

/-- the `searchWithFilter` closure (flat index).  The two shortcuts (`len(eligible) == 0`,
    `len(eligible) == numDocs`) look at the caller's list, before excluded documents are dropped. -/
def searchWithFilterCore (E : Engine) (dim : Nat) (m : VMap) (excl exDocs : List Nat) (numDocs : Nat)
    (q : List Int) (k : Nat) (eligible : List Nat) : List VHit :=
  if dim ≠ q.length then [] else
  if eligible.isEmpty then [] else
  if eligible.length = numDocs then addIDsToPostingsList m (E.searchExcl q k excl) else
  let incl := (liveEligible exDocs eligible).flatMap (docVecIDs m)
  if incl.isEmpty then [] else addIDsToPostingsList m (E.searchIncl q k incl)

/-- the closure as it was before the fix of D12: the include list is built from the caller's
    eligible set as it is -/
def searchWithFilterCoreD12 (E : Engine) (dim : Nat) (m : VMap) (excl : List Nat) (numDocs : Nat)
    (q : List Int) (k : Nat) (eligible : List Nat) : List VHit :=
  if dim ≠ q.length then [] else
  if eligible.isEmpty then [] else
  if eligible.length = numDocs then addIDsToPostingsList m (E.searchExcl q k excl) else
  let incl := eligible.flatMap (docVecIDs m)
  if incl.isEmpty then [] else addIDsToPostingsList m (E.searchIncl q k incl)

/-! #### clustered (IVF) index: the id selector of a filtered search

After the live eligible documents are known, the clustered branch hands the engine an id
selector: with more than half of the vector-owning documents eligible an EXCLUSION selector
(`NewIDSelectorNot`) over the vectors of every document of `docVecIDMap` that is not in the
eligible bitset, otherwise an INCLUSION selector (`NewIDSelectorBatch`) over
`vectorIDsToInclude`.  Which vectors the engine then looks at inside the probed clusters is the
engine's business (not modelled); which ids the selector admits is zapx's. -/

/-- the `ineligibleVectorIDs` loop over `docVecIDMap` -/
def ineligibleVecIDs (m : VMap) (live : List Nat) : List Nat :=
  (m.filter (fun p => !live.contains p.2)).map (·.1)

/-- does the selector admit vector `id`?  (`useNot` = the ratio test came out above 0.5) -/
def ivfSelects (useNot : Bool) (m : VMap) (live : List Nat) (id : Nat) : Bool :=
  if useNot then !(ineligibleVecIDs m live).contains id
  else (live.flatMap (docVecIDs m)).contains id

/-- search with the complete table: a function of (index, q, k, ex) -/
def search (E : Engine) (ix : VIndex) (q : List Int) (k : Nat) (ex : List Nat) : List VHit :=
  searchCore E ix.dim (vecDocIDMap ix.content) (vecIDsToExclude (vecDocIDMap ix.content) ex) q k

def searchWithFilter (E : Engine) (ix : VIndex) (numDocs : Nat) (q : List Int) (k : Nat)
    (ex eligible : List Nat) : List VHit :=
  searchWithFilterCore E ix.dim (vecDocIDMap ix.content)
    (vecIDsToExclude (vecDocIDMap ix.content) ex) ex numDocs q k eligible

/-- a field may have no vector index at all (`vecIndex == nil`): empty result -/
def searchField (f : Option (Engine × VIndex)) (q : List Int) (k : Nat) (ex : List Nat) : List VHit :=
  match f with
  | none => []
  | some (E, ix) => search E ix q k ex

def searchWithFilterField (f : Option (Engine × VIndex)) (numDocs : Nat) (q : List Int) (k : Nat)
    (ex eligible : List Nat) : List VHit :=
  match f with
  | none => []
  | some (E, ix) => searchWithFilter E ix numDocs q k ex eligible

/-- the `admissible` filter argument the differential driver uses for a filtered search:
    a filter naming as many ids as the segment has documents takes the unfiltered path -/
def eligArg (numDocs : Nat) (eligible : List Nat) : Option (List Nat) :=
  if eligible.length = numDocs then none else some eligible

/-! ### The postings list as the iterator sees it (roaring64 of codes, ascending) -/

def insCode (c : Nat) : List Nat → List Nat
  | [] => [c]
  | a :: r => if c < a then c :: a :: r else if c = a then a :: r else a :: insCode c r

/-- the bitmap's content in iteration order; `bits` = `Float32bits` of the score -/
def postingsCodes (bits : Int → Nat) (hits : List VHit) : List Nat :=
  hits.foldr (fun h acc => insCode (Gen.getVectorCode h.doc (bits h.score)) acc) []

/-- `nextAtOrAfter` on the remaining codes: `AdvanceIfNeeded(getVectorCode(target, 0))`, then
    `Next()`.  Returns the posting and the codes still ahead. -/
def nextAtOrAfter (rest : List Nat) (target : Nat) : Option Nat × List Nat :=
  match rest.dropWhile (fun c => decide (c < Gen.getVectorCode target 0)) with
  | [] => (none, [])
  | c :: r => (some c, r)

/-- `rv.docNum = code >> 32`, `rv.score = Float32frombits(uint32(code))` -/
def decodeCode (c : Nat) : Nat × Nat := (c >>> 32, c % 2 ^ 32)

/-! ### Cache histories (instrumented `VCache`)

  The entries carry ghost data: `gen` (the creation number = identity of the engine index)
  and the id table built by the creating call.  A handle remembers which engine index and
  which table its closures captured.  `HCache.toVCache` forgets the ghost data and gives
  the `VCache` of ZapModel.Vector (the one the differential driver steps). -/

structure IEntry where
  field : Name
  refs : Int
  gen : Nat
  vmap : VMap
  deriving Repr, DecidableEq, Inhabited

/-- what the closures returned by `InterpretVectorIndex(field, _, except)` captured -/
structure Handle where
  field : Name
  gen : Nat
  ex : List Nat
  vmap : VMap
  excl : List Nat
  deriving Repr, DecidableEq, Inhabited

structure HCache where
  entries : List IEntry := []
  closed : Bool := false
  created : Nat := 0
  /-- engine indexes closed so far, by creation number, in order of release -/
  released : List Nat := []
  /-- handles obtained and not yet closed -/
  handles : List Handle := []
  deriving Repr, DecidableEq, Inhabited

def HCache.toVCache (s : HCache) : VCache :=
  { entries := s.entries.map (fun e => { field := e.field, refs := e.refs }),
    closed := s.closed, created := s.created, released := s.released.length }

inductive Ev where
  | open (f : Name) (ex : List Nat)
  | close (h : Handle)
  | tick (evicted : List Name)
  | clear
  deriving Repr, DecidableEq, Inhabited

/-- the segment: the vectors of each field; `mkMap` = how a cache miss builds the id table from
    the field's content and the creating call's `except` -/
structure Setup where
  seg : Name → Content
  mkMap : Content → List Nat → VMap

def Setup.fixed (seg : Name → Content) : Setup := { seg := seg, mkMap := fun c _ => vecDocIDMap c }
def Setup.defect (seg : Name → Content) : Setup := { seg := seg, mkMap := vecDocIDMapDefect }

/-- `loadFromCache` -/
def HCache.open (S : Setup) (s : HCache) (f : Name) (ex : List Nat) : HCache :=
  match s.entries.find? (fun e => e.field = f) with
  | some e =>
    -- hit: `entry.load()` (refs+1), `getVecIDsToExclude(cached table, except)`
    { s with entries := s.entries.map (fun e' => if e'.field = f then { e' with refs := e'.refs + 1 } else e'),
             handles := s.handles ++ [{ field := f, gen := e.gen, ex := ex, vmap := e.vmap,
                                         excl := vecIDsToExclude e.vmap ex }] }
  | none =>
    -- miss: `createAndCacheLOCKED`; the exclusion list is collected in the same loop over ALL vectors
    let m := S.mkMap (S.seg f) ex
    { s with entries := s.entries ++ [{ field := f, refs := 1, gen := s.created, vmap := m }],
             created := s.created + 1,
             handles := s.handles ++ [{ field := f, gen := s.created, ex := ex, vmap := m,
                                         excl := vecIDsToExclude (vecDocIDMap (S.seg f)) ex }] }

/-- the wrapper's `close`: `decRef` by field id on whatever entry is cached now -/
def HCache.closeHandle (s : HCache) (h : Handle) : HCache :=
  { s with entries := s.entries.map (fun e => if e.field = h.field then { e with refs := e.refs - 1 } else e),
           handles := s.handles.erase h }

/-- `cleanup` evicting the given fields -/
def HCache.tick (s : HCache) (evicted : List Name) : HCache :=
  { s with entries := s.entries.filter (fun e => !evicted.contains e.field),
           released := s.released ++ (s.entries.filter (fun e => evicted.contains e.field)).map (·.gen) }

/-- `Clear` -/
def HCache.clear (s : HCache) : HCache :=
  { s with entries := [], closed := true, released := s.released ++ s.entries.map (·.gen) }

def HCache.step (S : Setup) (s : HCache) : Ev → HCache
  | .open f ex => s.open S f ex
  | .close h => s.closeHandle h
  | .tick ev => s.tick ev
  | .clear => s.clear

/-- which events may happen: a segment is opened for searching only while not closed and is
    closed once; only a handle that is open can be closed; a tick evicts only what
    `tickLegal` allows (refs ≤ 0). -/
def HCache.legal (s : HCache) : Ev → Bool
  | .open _ _ => !s.closed
  | .close h => s.handles.contains h
  | .tick ev => s.toVCache.tickLegal ev
  | .clear => !s.closed

/-- run a history; `none` = some event was not legal -/
def run (S : Setup) : HCache → List Ev → Option HCache
  | s, [] => some s
  | s, e :: es => if s.legal e then run S (s.step S e) es else none

/-- the same history on the plain `VCache` -/
def vstep (c : VCache) : Ev → VCache
  | .open f _ => c.open f
  | .close h => c.closeHandle h.field
  | .tick ev => c.tick ev
  | .clear => c.clear

/-- open handles of a field -/
def HCache.openHandles (s : HCache) (f : Name) : Nat := (s.handles.filter (fun h => h.field = f)).length

/-- engine indexes released by an event -/
def HCache.releasedBy (s : HCache) : Ev → List Nat
  | .tick ev => (s.entries.filter (fun e => ev.contains e.field)).map (·.gen)
  | .clear => s.entries.map (·.gen)
  | _ => []

/-- a search through a handle: the closure uses what it captured -/
def Handle.search (h : Handle) (E : Engine) (dim : Nat) (q : List Int) (k : Nat) : List VHit :=
  searchCore E dim h.vmap h.excl q k

def Handle.searchWithFilter (h : Handle) (E : Engine) (dim numDocs : Nat) (q : List Int) (k : Nat)
    (eligible : List Nat) : List VHit :=
  searchWithFilterCore E dim h.vmap h.excl h.ex numDocs q k eligible

end Zap.VecSearch
