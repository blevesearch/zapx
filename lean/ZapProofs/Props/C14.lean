/-
  C14 (vector search returns true scores of live documents, exactly top-k when exact).

  SCOPE.  zapx's own logic around the nearest-neighbour engine (`VecSearch.search`,
  `searchWithFilter`, `addIDsToPostingsList`, the id tables, the postings iterator), for
  EVERY engine that satisfies the stated contract `VecSearch.EngineOK` of an exact (flat)
  index.  FAISS itself is not verified; `C14_contract_satisfiable` shows that the contract is
  satisfiable (exhaustive scan, stable sort, first k), and the differential run checks the
  engine actually linked (real or stand-in) against `validTopK` on every generated search.
  `C14_topk_exact*` make that run-time oracle a proved consequence of the contract: the
  driver's check `validTopK ix.metric k (admissible ix q ex elig) R` holds for the model's
  result `R`.

  HYPOTHESES (explicit in every statement)
  * `hnd`: vector ids are distinct (zapx assigns them from a counter at build / merge);
  * `hE : EngineOK E ix`: for queries of the index dimension, `searchExcl` / `searchIncl`
    return an exact best-k selection among the selected ids with their true scores
    (`VecSearch.ExactSel`: sound, no id twice, at most k, nothing omitted is strictly better
    than something returned, exactly min k (#selected) pairs);
  * filtered search, full-selectivity shortcut: "only eligible documents" needs the caller
    contract that `eligible` lists distinct document numbers of the segment
    (`C14_only_eligible`); the include-list path needs nothing;
  * no contract `eligible ∩ ex = ∅`: since the fix of defect D12 the include-list path drops the
    excluded documents from the caller's eligible set (`VecSearch.liveEligible`), so "never a
    document in the exclusion bitmap" and the filtered top-k hold for every eligible set
    (`C14_filtered_no_excluded`, `C14_topk_exact_filtered`); `C14_D12_counterexample` evaluates
    the closure as it was before the fix on an input where it returns an excluded document.

  NOT MODELLED: what the clustered (IVF) engine does inside the probed clusters (sound only, checked
  by `soundHits` at run time; zapx's id selector for it IS modelled: `C14_ivf_selector`),
  float32 rounding of scores (scores of generated inputs are exact integers), engine errors,
  the `num_vectors` statistic and persistence (differential run).
-/
import ZapProofs.Vec.Search
import ZapProofs.Props.Codec

namespace Zap.C14
open Zap.VecSearch Zap.VecL

section Thms
variable (E : Engine) (ix : VIndex) (hnd : (ix.content.map (·.1)).Nodup) (hE : EngineOK E ix)
include hnd hE

/-- every returned (doc, score) is the true score of a vector of that document -/
theorem C14_sound (numDocs : Nat) (q : List Int) (k : Nat) (ex eligible : List Nat) :
    (∀ h ∈ search E ix q k ex, ∃ id v, (id, h.doc, v) ∈ ix.content ∧ h.score = vscore ix.metric q v) ∧
    (∀ h ∈ searchWithFilter E ix numDocs q k ex eligible,
        ∃ id v, (id, h.doc, v) ∈ ix.content ∧ h.score = vscore ix.metric q v) := by
  constructor
  · intro h hh
    obtain ⟨t, ht, _, rfl⟩ := (search_sel E ix hE q k ex).mem hnd hh
    exact ⟨t.1, t.2.2, ht, rfl⟩
  · intro h hh
    obtain ⟨t, ht, _, rfl⟩ := (swf_sel E ix hE numDocs q k ex eligible).mem hnd hh
    exact ⟨t.1, t.2.2, ht, rfl⟩

/-- a filtered search returns no excluded document - whatever the caller's eligible set names
    (defect D12 was the failure of exactly this statement; before the fix it needed the caller
    contract `eligible ∩ ex = ∅`, see `C14_D12_counterexample`) -/
theorem C14_filtered_no_excluded (numDocs : Nat) (q : List Int) (k : Nat) (ex eligible : List Nat) :
    ∀ h ∈ searchWithFilter E ix numDocs q k ex eligible, h.doc ∉ ex := by
  intro h hh
  obtain ⟨t, _, hP, rfl⟩ := (swf_sel E ix hE numDocs q k ex eligible).mem hnd hh
  exact docOK_some_left hP

/-- no returned document is in the exclusion list (unfiltered search, and the
    full-selectivity shortcut of the filtered search) -/
theorem C14_no_excluded (numDocs : Nat) (q : List Int) (k : Nat) (ex eligible : List Nat) :
    (∀ h ∈ search E ix q k ex, h.doc ∉ ex) ∧
    (eligible.length = numDocs → ∀ h ∈ searchWithFilter E ix numDocs q k ex eligible, h.doc ∉ ex) := by
  constructor
  · intro h hh
    obtain ⟨t, _, hP, rfl⟩ := (search_sel E ix hE q k ex).mem hnd hh
    exact docOK_some_left hP
  · exact fun _ => C14_filtered_no_excluded E ix hnd hE numDocs q k ex eligible

/-- a filtered search returns only eligible documents.  Partial filter: unconditionally.
    Filter of `numDocs` entries (shortcut to the unfiltered search): under the caller contract
    that `eligible` lists distinct document numbers below `numDocs` and the index only holds
    documents below `numDocs`. -/
theorem C14_only_eligible (numDocs : Nat) (q : List Int) (k : Nat) (ex eligible : List Nat)
    (hcaller : eligible.length = numDocs →
      eligible.Nodup ∧ (∀ d ∈ eligible, d < numDocs) ∧ ∀ t ∈ ix.content, t.2.1 < numDocs) :
    ∀ h ∈ searchWithFilter E ix numDocs q k ex eligible, h.doc ∈ eligible := by
  intro h hh
  obtain ⟨t, ht, hP, rfl⟩ := (swf_sel E ix hE numDocs q k ex eligible).mem hnd hh
  by_cases hfull : eligible.length = numDocs
  · obtain ⟨h1, h2, h3⟩ := hcaller hfull
    exact mem_of_full eligible numDocs h1 h2 hfull _ (h3 t ht)
  · rw [eligArg, if_neg hfull] at hP
    exact docOK_some_right hP

omit hnd in
theorem C14_at_most_k (numDocs : Nat) (q : List Int) (k : Nat) (ex eligible : List Nat) :
    (search E ix q k ex).length ≤ k ∧ (searchWithFilter E ix numDocs q k ex eligible).length ≤ k :=
  ⟨(search_sel E ix hE q k ex).length_le, (swf_sel E ix hE numDocs q k ex eligible).length_le⟩

/-- the run-time oracle of the differential run holds for the model's result -/
theorem C14_topk_exact (opt : Nat) (q : List Int) (k : Nat) (ex : List Nat) (hq : q.length = ix.dim) :
    validTopK ix.metric k (admissible (ix.toVecIx opt) q (some ex) none) (search E ix q k ex) = true :=
  search_topk E ix hnd hE opt q k ex hq

/-- filtered search against the `admissible` set the driver uses (`eligArg` = the driver's
    choice of the filter argument): exactly the best k among the documents that are eligible AND
    not excluded - no caller contract -/
theorem C14_topk_exact_filtered (opt numDocs : Nat) (q : List Int) (k : Nat) (ex eligible : List Nat)
    (hq : q.length = ix.dim) (hne : eligible ≠ []) :
    validTopK ix.metric k (admissible (ix.toVecIx opt) q (some ex) (eligArg numDocs eligible))
      (searchWithFilter E ix numDocs q k ex eligible) = true := by
  rw [admissible_content]
  exact (swf_sel E ix hE numDocs q k ex eligible).validTopK hnd (not_or.2 ⟨not_not_intro hq, hne⟩)

omit hnd hE in
/-- wrong dimension, or an empty filter: empty result (no contract needed) -/
theorem C14_wrong_dim_empty (numDocs : Nat) (q : List Int) (k : Nat) (ex eligible : List Nat) :
    (q.length ≠ ix.dim → search E ix q k ex = [] ∧ searchWithFilter E ix numDocs q k ex eligible = []) ∧
    searchWithFilter E ix numDocs q k ex [] = [] :=
  ⟨fun hq => ⟨search_wrong_dim E ix q k ex hq, swf_wrong_dim E ix numDocs q k ex eligible hq⟩,
   swf_empty E ix numDocs q k ex⟩

omit hnd in
/-- a field without a vector index, or an index without vectors: empty result -/
theorem C14_no_vectors_empty (numDocs : Nat) (q : List Int) (k : Nat) (ex eligible : List Nat) :
    searchField none q k ex = [] ∧ searchWithFilterField none numDocs q k ex eligible = [] ∧
    (ix.content = [] → search E ix q k ex = []) :=
  ⟨rfl, rfl, fun hc => search_no_vectors E ix hE hc q k ex⟩

end Thms

/-- Clustered index, filtered search: whichever selector the ratio test picks, it admits exactly
    the vectors of the documents that are eligible and not excluded - the exclusion selector is
    not a second, weaker filter.  (Every vector id of the table, ids distinct.) -/
theorem C14_ivf_selector (m : VMap) (hnd : (m.map (·.1)).Nodup) (ex eligible : List Nat)
    (useNot : Bool) (id d : Nat) (hm : (id, d) ∈ m) :
    ivfSelects useNot m (liveEligible ex eligible) id = (eligible.contains d && !ex.contains d) := by
  cases useNot
  · simp only [ivfSelects, Bool.false_eq_true, if_false]
    rw [contains_incl m hnd _ hm, contains_liveEligible]
  · simp only [ivfSelects, if_true]
    rw [contains_ineligible m hnd _ hm, Bool.not_not, contains_liveEligible]

/-- what goes wrong when the exclusion selector is built from the caller's eligible set instead of
    the live one (seeded change C14-r7m1): the excluded document 0, named eligible, is admitted -/
example : ivfSelects true [(0, 0), (1, 1), (2, 2)] [0, 1] 0 = true ∧
    ivfSelects true [(0, 0), (1, 1), (2, 2)] (liveEligible [0] [0, 1]) 0 = false := by decide +kernel

/-- the statements apply to every id-free index of the driver: number its vectors by position -/
theorem C14_covers_every_VecIx (v : VecIx) :
    (VIndex.ofVecIx v).toVecIx v.opt = v ∧ ((VIndex.ofVecIx v).content.map (·.1)).Nodup :=
  ⟨ofVecIx_toVecIx v, ofVecIx_nodup v⟩

/-- the contract is satisfiable: the reference engine fulfils it on every index with distinct ids -/
theorem C14_contract_satisfiable (ix : VIndex) (hnd : (ix.content.map (·.1)).Nodup) :
    EngineOK (refEngine ix) ix :=
  fun q k _ => ⟨fun _ => refSelect_exact ix hnd q k _, fun _ => refSelect_exact ix hnd q k _⟩

/-- The postings list in iteration order (`bits` = `Float32bits` of the score, any function
    into 32 bits; documents below 2^32):
    (1) it holds exactly the codes of the hits; (2) a code decodes to its (doc, score bits);
    (3) iteration is strictly ascending in (doc, score bits), lexicographically
        (`vectorCode_order`); (4) `Next()` takes the codes one by one in this order;
    (5) `Advance(target)` on the codes still ahead skips exactly the codes of documents below
        `target` and returns the first code whose document is ≥ `target` (the least such code),
        or nothing if there is none. -/
theorem C14_code_order (bits : Int → Nat) (hits : List VHit)
    (hd : ∀ h ∈ hits, h.doc < 2 ^ 32) (hb : ∀ s, bits s < 2 ^ 32) :
    (∀ x, x ∈ postingsCodes bits hits ↔ ∃ h ∈ hits, x = Gen.getVectorCode h.doc (bits h.score)) ∧
    (∀ h ∈ hits, decodeCode (Gen.getVectorCode h.doc (bits h.score)) = (h.doc, bits h.score)) ∧
    (postingsCodes bits hits).Pairwise (fun a b =>
      (decodeCode a).1 < (decodeCode b).1 ∨
      ((decodeCode a).1 = (decodeCode b).1 ∧ (decodeCode a).2 < (decodeCode b).2)) ∧
    (∀ rest, nextAtOrAfter rest 0 = (rest.head?, rest.tail)) ∧
    (∀ target, target < 2 ^ 32 → ∀ done rest, postingsCodes bits hits = done ++ rest →
      (∀ c r, nextAtOrAfter rest target = (some c, r) →
        ∃ pre, rest = pre ++ c :: r ∧ (∀ x ∈ pre, (decodeCode x).1 < target) ∧
          target ≤ (decodeCode c).1 ∧ (∀ y ∈ r, c < y)) ∧
      (∀ r, nextAtOrAfter rest target = (none, r) → ∀ x ∈ rest, (decodeCode x).1 < target)) := by
  have hdec : ∀ h ∈ hits, decodeCode (Gen.getVectorCode h.doc (bits h.score)) = (h.doc, bits h.score) := by
    intro h hh
    simp only [decodeCode, Prod.mk.injEq]
    exact ⟨Props.Codec.vectorCode_doc _ _ (hd h hh) (hb _), Props.Codec.vectorCode_score _ _ (hd h hh) (hb _)⟩
  refine ⟨mem_postingsCodes bits hits, hdec, ?_, nextAtOrAfter_zero, ?_⟩
  · apply List.Pairwise.imp_of_mem _ (sorted_postingsCodes bits hits)
    intro a b ha hb' hab
    obtain ⟨h, hh, rfl⟩ := (mem_postingsCodes bits hits a).1 ha
    obtain ⟨h', hh', rfl⟩ := (mem_postingsCodes bits hits b).1 hb'
    rw [hdec h hh, hdec h' hh']
    exact (Props.Codec.vectorCode_order _ _ _ _ (hd h hh) (hb _) (hd h' hh') (hb _)).1 hab
  · intro target ht done rest hsplit
    have hsorted : rest.Pairwise (· < ·) := by
      have := sorted_postingsCodes bits hits
      rw [hsplit, List.pairwise_append] at this
      exact this.2.1
    obtain ⟨h1, h2⟩ := nextAtOrAfter_spec rest target ht
    constructor
    · intro c r hn
      obtain ⟨pre, hp, hlt, hge⟩ := h1 c r hn
      refine ⟨pre, hp, hlt, hge, ?_⟩
      rw [hp, List.pairwise_append, List.pairwise_cons] at hsorted
      exact hsorted.2.1.1
    · exact h2

/-! ### Non-vacuity: a 4-vector index, a duplicate vector across documents, a document with two
    vectors, exclusion, k = 2 with a three-way tie -/

/-- doc 0: [1,0]; doc 1: [1,0] (the same vector) and [0,1]; doc 2: [5,5].  Squared L2. -/
def ixEx : VIndex :=
  { dim := 2, metric := 0,
    content := [(0, 0, [1, 0]), (1, 1, [1, 0]), (2, 1, [0, 1]), (3, 2, [5, 5])] }

example : EngineOK (refEngine ixEx) ixEx := C14_contract_satisfiable ixEx (by decide)

/-- three vectors tie at distance 1; the stable engine returns ids 0, 1 -/
example : search (refEngine ixEx) ixEx [0, 0] 2 [] = [⟨0, 1⟩, ⟨1, 1⟩] := by decide +kernel
/-- excluding doc 0 the two best are both vectors of doc 1 with equal score: ONE posting -/
example : search (refEngine ixEx) ixEx [0, 0] 2 [0] = [⟨1, 1⟩] := by decide +kernel
example : validTopK 0 2 (admissible ixEx.toVecIx [0, 0] (some [0]) none) [⟨1, 1⟩] = true := by decide +kernel
/-- ties are arbitrary: another engine may answer ids 1, 2 - one posting - also accepted -/
example : validTopK 0 2 (admissible ixEx.toVecIx [0, 0] (some []) none) [⟨1, 1⟩] = true := by decide +kernel
example : validTopK 0 2 (admissible ixEx.toVecIx [0, 0] (some []) none) [⟨0, 1⟩, ⟨1, 1⟩] = true := by decide +kernel
/-- the checker is not trivially true: a worse vector, an excluded document, a wrong score,
    too few and too many are all rejected -/
example : validTopK 0 2 (admissible ixEx.toVecIx [0, 0] (some []) none) [⟨2, 50⟩, ⟨1, 1⟩] = false := by decide +kernel
example : validTopK 0 2 (admissible ixEx.toVecIx [0, 0] (some [0]) none) [⟨0, 1⟩] = false := by decide +kernel
example : validTopK 0 2 (admissible ixEx.toVecIx [0, 0] (some []) none) [⟨0, 2⟩] = false := by decide +kernel
example : validTopK 0 3 (admissible ixEx.toVecIx [0, 0] (some []) none) [⟨0, 1⟩] = false := by decide +kernel
example : validTopK 0 1 (admissible ixEx.toVecIx [0, 0] (some []) none) [⟨0, 1⟩, ⟨1, 1⟩] = false := by decide +kernel
/-- filtered: partial filter (include list), full filter (shortcut), empty filter, a document
    without vectors, wrong dimension -/
example : searchWithFilter (refEngine ixEx) ixEx 3 [0, 0] 2 [] [2] = [⟨2, 50⟩] := by decide +kernel
example : searchWithFilter (refEngine ixEx) ixEx 3 [0, 0] 2 [] [1, 2] = [⟨1, 1⟩] := by decide +kernel
example : searchWithFilter (refEngine ixEx) ixEx 3 [0, 0] 2 [1] [0, 1, 2] = [⟨0, 1⟩, ⟨2, 50⟩] := by decide +kernel
example : searchWithFilter (refEngine ixEx) ixEx 3 [0, 0] 2 [] [] = [] := by decide +kernel
example : searchWithFilter (refEngine ixEx) ixEx 4 [0, 0] 2 [] [3] = [] := by decide +kernel
example : search (refEngine ixEx) ixEx [0, 0, 0] 2 [] = [] := by decide +kernel
/-- inner product (larger is better) -/
example : search (refEngine { ixEx with metric := 1 }) { ixEx with metric := 1 } [1, 1] 2 [] =
    [⟨2, 10⟩, ⟨0, 1⟩] := by decide +kernel
/-- the postings iterate by (doc, score bits); Advance(1) skips doc 0 -/
example : postingsCodes Int.toNat [⟨2, 50⟩, ⟨0, 1⟩, ⟨1, 7⟩, ⟨1, 1⟩] =
    [1, 2 ^ 32 + 1, 2 ^ 32 + 7, 2 * 2 ^ 32 + 50] := by decide +kernel
example : nextAtOrAfter [1, 2 ^ 32 + 1, 2 ^ 32 + 7, 2 * 2 ^ 32 + 50] 1 =
    (some (2 ^ 32 + 1), [2 ^ 32 + 7, 2 * 2 ^ 32 + 50]) := by decide +kernel

/-- Defect D12, evaluated: three documents with one vector each, document 0 excluded, eligible
    set {0, 1} (the caller's filter knows nothing of the exclusion), query on document 0's
    vector, k = 1.  The closure as it was before the fix returns the excluded document 0; the
    current one returns document 1. -/
def ixD12 : VIndex := { dim := 1, metric := 0, content := [(0, 0, [0]), (1, 1, [5]), (2, 2, [9])] }

theorem C14_D12_counterexample :
    (searchWithFilterCoreD12 (refEngine ixD12) 1 (vecDocIDMap ixD12.content)
        (vecIDsToExclude (vecDocIDMap ixD12.content) [0]) 3 [0] 1 [0, 1]).map (·.doc) = [0] ∧
    (searchWithFilter (refEngine ixD12) ixD12 3 [0] 1 [0] [0, 1]).map (·.doc) = [1] := by
  decide +kernel

section Report
#print axioms C14_sound
#print axioms C14_D12_counterexample
#print axioms C14_no_excluded
#print axioms C14_only_eligible
#print axioms C14_filtered_no_excluded
#print axioms C14_at_most_k
#print axioms C14_topk_exact
#print axioms C14_topk_exact_filtered
#print axioms C14_wrong_dim_empty
#print axioms C14_ivf_selector
#print axioms C14_no_vectors_empty
#print axioms C14_covers_every_VecIx
#print axioms C14_contract_satisfiable
#print axioms C14_code_order
end Report

end Zap.C14
