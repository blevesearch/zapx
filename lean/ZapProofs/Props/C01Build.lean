/-
  C01: the segment built from a batch agrees with the per-query specification:
  field table, dictionary content (documents, frequencies, norms, locations),
  term order.  The lemmas are in ZapProofs/Build.
-/
import ZapProofs.Build.Seg

namespace Zap

/-- the field table: `_id` first, the other names ascending, each once, exactly the batch's names -/
theorem C01_fieldTable (b : Batch) : Spec.IsFieldTable b (fieldTable b) :=
  fieldTable_isFieldTable b

/-- the segment's field records carry exactly the names of the field table, in order -/
theorem C01_fieldNames (vectors : Bool) (mode : Nat) (b : Batch) :
    (buildSeg vectors mode b).fields.map (·.name) = fieldTable b :=
  buildSeg_names vectors mode b

/-- terms of every field dictionary are strictly ascending (what the FST requires) -/
theorem C01_termsSorted (vectors : Bool) (mode : Nat) (b : Batch) :
    ∀ f ∈ (buildSeg vectors mode b).fields, SortedLt (f.terms.map (·.1)) :=
  fun _ hf => buildSeg_terms_sorted vectors mode b hf

/-- empty batch: no fields visible, no postings -/
theorem C01_empty (vectors : Bool) (mode : Nat) :
    (buildSeg vectors mode []).fieldNames = [] ∧
    (∀ n, (buildSeg vectors mode []).dictTerms n = []) ∧
    ∀ n t, Spec.postings vectors [] n t = [] :=
  ⟨rfl, fun _ => rfl, fun _ _ => rfl⟩

/-- dictionary content: for every field name `n` and term `t`, the built segment's dictionary of `n`
    has `t` iff some document has `t` in `n`, and then its entries, resolved through the field table,
    are exactly `Spec.postings` (documents in increasing order, frequency / norm / locations as the
    spec says). -/
theorem C01_entries_all (vectors : Bool) (mode : Nat) (b : Batch) (hwf : Spec.WF b) (n : Name) (t : Bytes) :
    match lookup t ((buildSeg vectors mode b).dictTerms n) with
    | none => Spec.postings vectors b n t = []
    | some (.general es) =>
        es.map (Spec.hitOfEntry ((buildSeg vectors mode b).fields.map (·.name))) = Spec.postings vectors b n t
        ∧ AscNat (es.map (·.doc)) ∧ es ≠ []
    | some (.oneHit _ _) => False := by
  rw [buildSeg_names]
  rcases dict_entries vectors mode b hwf n t with ⟨hl, h⟩ | ⟨es, hl, h, hasc, hes⟩ <;> rw [hl]
  · exact h
  · exact ⟨h, ascNat_iff_pairwise.2 hasc, hes⟩

/-! ### The hypotheses are not vacuous: a concrete batch

Two documents; field `a` is multi-valued in document 0 (two instances, the second one also
carrying the term `y` without locations, the first one the empty term); the composite field
`_all` has locations naming the source field `a`; in document 1 `_all` occurs twice, so the
second instance's location is attributed to `_all` itself (the `MergeAll` renaming). -/

namespace C01Example

def nA : Name := [97]
def nAll : Name := [95, 97, 108, 108]
def tX : Bytes := [120]
def tY : Bytes := [121]

def batch : Batch :=
  [ { id := [49], fields :=
        [ { name := idName, stored := true, val := [49], len := 1, toks := [{ term := [49], freq := 1, locs := [] }] },
          { name := nA, len := 2, toks := [{ term := tX, freq := 2, locs := [⟨[], 1, 0, 1, []⟩, ⟨[], 2, 2, 3, []⟩] },
                                         { term := [], freq := 1, locs := [⟨[], 3, 4, 4, []⟩] }] },
          { name := nA, len := 1, toks := [{ term := tX, freq := 1, locs := [⟨[], 1, 0, 1, [1]⟩] },
                                         { term := tY, freq := 1, locs := [] }] },
          { kind := .comp, name := nAll, len := 3,
            toks := [{ term := tX, freq := 3, locs := [⟨nA, 1, 0, 1, []⟩, ⟨nA, 2, 2, 3, []⟩, ⟨nA, 1, 0, 1, [1]⟩] }] } ] },
    { id := [50], fields :=
        [ { name := idName, stored := true, val := [50], len := 1, toks := [{ term := [50], freq := 1, locs := [] }] },
          { name := nA, len := 1, toks := [{ term := tX, freq := 1, locs := [⟨[], 1, 0, 1, []⟩] }] },
          { kind := .comp, name := nAll, len := 1, toks := [{ term := tX, freq := 1, locs := [⟨nA, 1, 0, 1, []⟩] }] },
          { kind := .comp, name := nAll, len := 1, toks := [{ term := tX, freq := 1, locs := [⟨nA, 7, 8, 9, []⟩] }] } ] } ]

theorem batch_wf : Spec.WF batch := ⟨by decide +kernel, by decide +kernel, by decide +kernel⟩

example : Spec.WF batch := batch_wf

example : batch ≠ [] := by simp [batch]

example : fieldTable batch = [idName, nAll, nA] := by decide +kernel

/-- both sides of `C01_entries_all` for (`_all`, `x`): what the built dictionary holds … -/
example : lookup tX ((buildSeg false 0 batch).dictTerms nAll) = some (.general
    [ { doc := 0, freq := 3, norm := 3, locs := [⟨2, 1, 0, 1, []⟩, ⟨2, 2, 2, 3, []⟩, ⟨2, 1, 0, 1, [1]⟩] },
      { doc := 1, freq := 2, norm := 2, locs := [⟨2, 1, 0, 1, []⟩, ⟨1, 7, 8, 9, []⟩] } ]) := by
  decide +kernel

/-- … and what the specification says. -/
example : Spec.postings false batch nAll tX =
    [ { doc := 0, freq := 3, norm := 3, locs := [⟨nA, 1, 0, 1, []⟩, ⟨nA, 2, 2, 3, []⟩, ⟨nA, 1, 0, 1, [1]⟩] },
      { doc := 1, freq := 2, norm := 2, locs := [⟨nA, 1, 0, 1, []⟩, ⟨nAll, 7, 8, 9, []⟩] } ] := by
  decide +kernel

/-- the multi-valued field, the empty term, a term without locations, an absent term, an unknown field -/
example :
    lookup tX ((buildSeg false 0 batch).dictTerms nA) = some (.general
      [ { doc := 0, freq := 3, norm := 3, locs := [⟨2, 1, 0, 1, []⟩, ⟨2, 2, 2, 3, []⟩, ⟨2, 1, 0, 1, [1]⟩] },
        { doc := 1, freq := 1, norm := 1, locs := [⟨2, 1, 0, 1, []⟩] } ]) ∧
    Spec.postings false batch nA [] = [ { doc := 0, freq := 1, norm := 3, locs := [⟨nA, 3, 4, 4, []⟩] } ] ∧
    lookup [] ((buildSeg false 0 batch).dictTerms nA) =
      some (.general [ { doc := 0, freq := 1, norm := 3, locs := [⟨2, 3, 4, 4, []⟩] } ]) ∧
    lookup tY ((buildSeg false 0 batch).dictTerms nA) =
      some (.general [ { doc := 0, freq := 1, norm := 3, locs := [] } ]) ∧
    lookup [122] ((buildSeg false 0 batch).dictTerms nA) = none ∧
    Spec.postings false batch nA [122] = [] ∧
    (buildSeg false 0 batch).dictTerms [122] = [] := by
  decide +kernel

/-- the statement of `C01_entries_all` on this batch, checked by evaluation alone -/
example :
    (match lookup tX ((buildSeg false 0 batch).dictTerms nAll) with
     | none => decide (Spec.postings false batch nAll tX = [])
     | some (.general es) =>
         decide (es.map (Spec.hitOfEntry ((buildSeg false 0 batch).fields.map (·.name))) =
           Spec.postings false batch nAll tX) && !es.isEmpty
     | some (.oneHit _ _) => false) = true := by
  decide +kernel

end C01Example

/-! ### Why `Spec.WF` is needed (the two clauses the proof uses)

* `termsDistinct`: a field instance listing a term twice is committed twice
  (`firstTFs` keeps both, `appendEntry` appends two entries for the same document). -/
example :
    let toks : List Tok := [{ term := [120], freq := 1, locs := [] }, { term := [120], freq := 5, locs := [] }]
    let b : Batch := [ { id := [49], fields := [ { name := [97], len := 1, toks := toks } ] } ]
    (lookup [120] ((buildSeg false 0 b).dictTerms [97])).map (fun r => r.entries.map (·.freq)) = some [1, 5] ∧
    (Spec.postings false b [97] [120]).map (·.freq) = [1] := by
  decide +kernel

/-- * `srcKnown`: a location naming a field that is not in the batch gets the id `tbl.length`,
    which no name of the field table resolves. -/
example :
    let toks : List Tok := [{ term := [120], freq := 1, locs := [⟨[98], 1, 0, 1, []⟩] }]
    let b : Batch := [ { id := [49], fields := [ { name := [97], len := 1, toks := toks } ] } ]
    (lookup [120] ((buildSeg false 0 b).dictTerms [97])).map
        (fun r => r.entries.map (fun e => (Spec.hitOfEntry (fieldTable b) e).locs.map (·.field))) = some [[[]]] ∧
    (Spec.postings false b [97] [120]).map (fun h => h.locs.map (·.field)) = [[[98]]] := by
  decide +kernel

#print axioms C01_fieldTable
#print axioms C01_fieldNames
#print axioms C01_entries_all
#print axioms C01_termsSorted
#print axioms C01_empty

end Zap
