/-
  The two doc-value reader loaders of segment.go (`ZapModel/Loaders.lean`): what a run of a loader
  over a field table registers, in closed form (`run_eq`), and that registration is functional in
  the field id; for Props/C04Loaders.lean.
-/
import ZapModel.Loaders
import ZapProofs.Base.Basic

namespace Zap.Loaders

/-- What SHOULD be registered: field `fid` (named `name`) has, for section `sec`, a record
    at a non-zero address whose dvStart is not `fieldNotUninverted` (reader info `i`). -/
def Registers (tbl : FieldTable) (sec fid : Nat) (i : DvInfo) (name : Name) : Prop :=
  ∃ fld, tbl[fid]? = some fld ∧ fld.1 = name ∧ ∃ r ∈ fld.2, r.1 = sec ∧ r.2.1 > 0 ∧ r.2.2 = some i

/-- Well-formed table: `fieldsSectionsMap[fid]` is a map (one record per section id), and every
    section that has a record is registered (`fieldDvReaders` is a slice of `len(segmentSections)`
    entries). -/
structure WF (regs : List Nat) (tbl : FieldTable) : Prop where
  secsNodup : ∀ f ∈ tbl, (f.2.map (·.1)).Nodup
  secsReg : ∀ f ∈ tbl, ∀ r ∈ f.2, r.2.1 > 0 → r.1 ∈ regs

namespace Lemmas

/-- One `loadDvReader`-like step: (section, field id, name, reader or nil). -/
abbrev Call := Nat × Nat × Name × Option DvInfo

def run (calls : List Call) (st : DvState) : DvState :=
  calls.foldl (fun st c => register st c.1 c.2.1 c.2.2.1 c.2.2.2) st

theorem run_nil (st : DvState) : run [] st = st := rfl

theorem run_cons (c : Call) (cs : List Call) (st : DvState) :
    run (c :: cs) st = run cs (register st c.1 c.2.1 c.2.2.1 c.2.2.2) := rfl

theorem run_eq (calls : List Call) : ∀ st : DvState, run calls st =
    { readers := (calls.filterMap (fun c => c.2.2.2.map (fun i => ((c.1, c.2.1), i)))).reverse ++ st.readers,
      names := st.names ++ calls.filterMap (fun c => c.2.2.2.map (fun _ => c.2.2.1)) } := by
  induction calls with
  | nil => intro st; simp [run]
  | cons c cs ih =>
    intro st
    obtain ⟨sec, fid, name, rd⟩ := c
    cases rd <;> simp [run_cons, ih, register]

def baseCalls (tbl : FieldTable) (ord : Nat → List SecRec → List SecRec) : List Call :=
  tbl.zipIdx.flatMap (fun p =>
    ((ord p.2 p.1.2).filter (fun r => r.2.1 > 0)).map (fun r => (r.1, p.2, p.1.1, r.2.2)))

def fileCalls (tbl : FieldTable) (ordS : Nat → List Nat) : List Call :=
  tbl.zipIdx.flatMap (fun p => (ordS p.2).map (fun sec => (sec, p.2, p.1.1, readerAt p.1.2 sec)))

theorem loadBase_eq (numDocs : Nat) (tbl : FieldTable) (ord : Nat → List SecRec → List SecRec)
    (h : numDocs ≠ 0) : loadBase numDocs tbl ord = run (baseCalls tbl ord) {} := by
  unfold loadBase run baseCalls
  rw [if_neg h, List.foldl_flatMap]
  refine List.foldl_congr_mem (fun st p _ => ?_) _
  rw [List.foldl_map, List.foldl_filter]
  refine List.foldl_congr_mem (fun st r _ => ?_) _
  by_cases hr : r.2.1 > 0 <;> simp [hr]

theorem loadFile_eq (numDocs : Nat) (tbl : FieldTable) (ordS : Nat → List Nat)
    (h : numDocs ≠ 0) : loadFile numDocs tbl ordS = run (fileCalls tbl ordS) {} := by
  unfold loadFile run fileCalls
  rw [if_neg h, List.foldl_flatMap]
  refine List.foldl_congr_mem (fun st p _ => ?_) _
  rw [List.foldl_map]

theorem readerAt_iff (regs : List Nat) (secs : List SecRec) (hnd : (secs.map (·.1)).Nodup)
    (hreg : ∀ r ∈ secs, r.2.1 > 0 → r.1 ∈ regs) (sec : Nat) (i : DvInfo) :
    (sec ∈ regs ∧ readerAt secs sec = some i) ↔
      ∃ r ∈ secs, r.1 = sec ∧ r.2.1 > 0 ∧ r.2.2 = some i := by
  constructor
  · rintro ⟨_, h⟩
    unfold readerAt sectionAt at h
    cases hf : secs.find? (fun r => r.1 = sec) with
    | none => simp [hf] at h
    | some r =>
      simp only [hf] at h
      by_cases hpos : r.2.1 > 0
      · rw [if_pos hpos] at h
        exact ⟨r, List.mem_of_find?_eq_some hf, by simpa using List.find?_some hf, hpos, h⟩
      · rw [if_neg hpos] at h; cases h
  · rintro ⟨r, hr, rfl, hpos, hi⟩
    refine ⟨hreg r hr hpos, ?_⟩
    unfold readerAt sectionAt
    rw [List.find?_key_eq_some (key := (·.1)) hnd hr]
    simp [hpos, hi]

theorem base_registers (tbl : FieldTable) (ord : Nat → List SecRec → List SecRec)
    (hord : ∀ fid l, (ord fid l).Perm l) (sec fid : Nat) (i : DvInfo) (name : Name) :
    (sec, fid, name, some i) ∈ baseCalls tbl ord ↔ Registers tbl sec fid i name := by
  unfold baseCalls Registers
  constructor
  · intro hc
    obtain ⟨p, hp, hc⟩ := List.mem_flatMap.mp hc
    obtain ⟨r, hr, he⟩ := List.mem_map.mp hc
    obtain ⟨hr1, hr2⟩ := List.mem_filter.mp hr
    have hr1' := (hord p.2 p.1.2).mem_iff.mp hr1
    simp only [Prod.mk.injEq] at he
    obtain ⟨h1, h2, h3, h4⟩ := he
    refine ⟨p.1, ?_, h3, r, hr1', h1, by simpa using hr2, h4⟩
    rw [← h2]
    exact List.mem_zipIdx_iff_getElem?.mp hp
  · rintro ⟨fld, hf, hn, r, hr, h1, h2, h3⟩
    apply List.mem_flatMap.mpr
    refine ⟨(fld, fid), List.mem_zipIdx_iff_getElem?.mpr hf, ?_⟩
    apply List.mem_map.mpr
    refine ⟨r, List.mem_filter.mpr ⟨(hord fid fld.2).mem_iff.mpr hr, by simpa using h2⟩, ?_⟩
    simp [h1, hn, h3]

theorem file_registers (regs : List Nat) (tbl : FieldTable) (hwf : WF regs tbl) (ordS : Nat → List Nat)
    (hord : ∀ fid, (ordS fid).Perm regs) (sec fid : Nat) (i : DvInfo) (name : Name) :
    (sec, fid, name, some i) ∈ fileCalls tbl ordS ↔ Registers tbl sec fid i name := by
  unfold fileCalls Registers
  constructor
  · intro hc
    obtain ⟨p, hp, hc⟩ := List.mem_flatMap.mp hc
    obtain ⟨s, hs, he⟩ := List.mem_map.mp hc
    simp only [Prod.mk.injEq] at he
    obtain ⟨h1, h2, h3, h4⟩ := he
    have hget := List.mem_zipIdx_iff_getElem?.mp hp
    have hmem : p.1 ∈ tbl := List.mem_of_getElem? hget
    have := (readerAt_iff regs p.1.2 (hwf.secsNodup p.1 hmem) (hwf.secsReg p.1 hmem) s i).mp
      ⟨(hord p.2).mem_iff.mp hs, h4⟩
    obtain ⟨r, hr, hr1, hr2, hr3⟩ := this
    exact ⟨p.1, by rw [← h2]; exact hget, h3, r, hr, by rw [hr1, h1], hr2, hr3⟩
  · rintro ⟨fld, hf, hn, r, hr, h1, h2, h3⟩
    have hmem : fld ∈ tbl := List.mem_of_getElem? hf
    have := (readerAt_iff regs fld.2 (hwf.secsNodup fld hmem) (hwf.secsReg fld hmem) sec i).mpr
      ⟨r, hr, h1, h2, h3⟩
    apply List.mem_flatMap.mpr
    refine ⟨(fld, fid), List.mem_zipIdx_iff_getElem?.mpr hf, ?_⟩
    apply List.mem_map.mpr
    exact ⟨sec, (hord fid).mem_iff.mpr this.1, by simp [hn, this.2]⟩

theorem run_readers (calls : List Call) (sec fid : Nat) (i : DvInfo) :
    ((sec, fid), i) ∈ (run calls {}).readers ↔ ∃ name, (sec, fid, name, some i) ∈ calls := by
  rw [run_eq]
  simp only [List.append_nil, List.mem_reverse, List.mem_filterMap, Option.map_eq_some_iff]
  constructor
  · rintro ⟨⟨s, f, n, rd⟩, hc, j, hj, he⟩
    simp only [Prod.mk.injEq] at he hj
    obtain ⟨⟨rfl, rfl⟩, rfl⟩ := he
    subst hj
    exact ⟨n, hc⟩
  · rintro ⟨name, hc⟩
    exact ⟨_, hc, i, rfl, rfl⟩

theorem run_names (calls : List Call) (n : Name) :
    n ∈ (run calls {}).names ↔ ∃ sec fid i, (sec, fid, n, some i) ∈ calls := by
  rw [run_eq]
  simp only [List.nil_append, List.mem_filterMap, Option.map_eq_some_iff]
  constructor
  · rintro ⟨⟨s, f, nm, rd⟩, hc, j, hj, he⟩
    simp only at he hj
    subst he hj
    exact ⟨s, f, j, hc⟩
  · rintro ⟨sec, fid, i, hc⟩
    exact ⟨_, hc, i, rfl, rfl⟩

theorem registers_functional (regs : List Nat) (tbl : FieldTable) (hwf : WF regs tbl)
    (sec fid : Nat) (i i' : DvInfo) (n n' : Name)
    (h : Registers tbl sec fid i n) (h' : Registers tbl sec fid i' n') : i = i' := by
  obtain ⟨fld, hf, _, r, hr, h1, _, h3⟩ := h
  obtain ⟨fld', hf', _, r', hr', h1', _, h3'⟩ := h'
  rw [hf] at hf'
  cases hf'
  cases List.inj_on_of_nodup_map (hwf.secsNodup fld (List.mem_of_getElem? hf)) hr hr' (h1.trans h1'.symm)
  exact Option.some.inj (h3.symm.trans h3')

theorem lookup_eq_some_iff_of_functional {α β : Type} [DecidableEq α] (l : List (α × β))
    (hfun : ∀ k v v', (k, v) ∈ l → (k, v') ∈ l → v = v') (k : α) (v : β) :
    lookup k l = some v ↔ (k, v) ∈ l := by
  refine ⟨mem_of_lookup_eq_some, fun h => ?_⟩
  obtain ⟨v', hv'⟩ :=
    Option.isSome_iff_exists.mp (lookup_isSome_iff.mpr (List.mem_map_of_mem (f := (·.1)) h))
  rw [hv', hfun k v' v (mem_of_lookup_eq_some hv') h]

end Lemmas

end Zap.Loaders
