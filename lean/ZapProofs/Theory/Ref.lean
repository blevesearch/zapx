/-
  Lemmas for reference counting (`Zap.RefSt`, ZapModel/Life.lean): the release (`closeActual`)
  happens exactly once, at the operation that drops the last reference, never earlier.
-/
import ZapModel.Theory.RefCount

namespace Zap.Theory.RefCount

theorem run_cons (s : RefSt) (op : RefOp) (rest : List RefOp) :
    RefSt.run s (op :: rest) = RefSt.run (s.step op) rest := rfl

theorem step_refs (s : RefSt) (op : RefOp) : (s.step op).refs = s.refs + delta op := by
  cases op <;> rfl

theorem run_refs (s : RefSt) (ops : List RefOp) : (RefSt.run s ops).refs = count s.refs ops := by
  induction ops generalizing s with
  | nil => rfl
  | cons op rest ih => rw [run_cons, ih, step_refs]; rfl

theorem count_append (c : Int) (a b : List RefOp) : count c (a ++ b) = count (count c a) b := by
  induction a generalizing c with
  | nil => rfl
  | cons op rest ih => simp [count, ih]

theorem step_releases_of_ne (s : RefSt) (op : RefOp) (h : s.refs + delta op ≠ 0) :
    (s.step op).releases = s.releases := by
  cases op with
  | addRef => simp [RefSt.step]
  | decRef | close =>
    -- `delta op` is `-1` here, and `a - 1` unfolds to `a + -1`
    have : s.refs - 1 ≠ 0 := h
    simp [RefSt.step, this]

theorem step_releases_of_zero (s : RefSt) (op : RefOp) (hop : op ≠ .addRef)
    (h : s.refs + delta op = 0) : (s.step op).releases = s.releases + 1 := by
  cases op with
  | addRef => exact absurd rfl hop
  | decRef | close =>
    have : s.refs - 1 = 0 := h
    simp [RefSt.step, this]

theorem no_release (s : RefSt) (pre : List RefOp)
    (h : ∀ q, q <+: pre → q ≠ [] → count s.refs q ≠ 0) :
    (RefSt.run s pre).releases = s.releases := by
  induction pre generalizing s with
  | nil => rfl
  | cons op rest ih =>
    rw [run_cons]
    have h1 : s.refs + delta op ≠ 0 := h [op] ⟨rest, rfl⟩ (by simp)
    rw [ih (s.step op), step_releases_of_ne s op h1]
    intro q hq hne
    obtain ⟨t, ht⟩ := hq
    have := h (op :: q) ⟨t, by simp [ht]⟩ (by simp)
    rw [step_refs]; exact this

theorem release_once (ops : List RefOp)
    (hpos : ∀ pre, pre <+: ops → pre ≠ ops → 1 ≤ count 1 pre)
    (hzero : count 1 ops = 0) :
    (RefSt.run {} ops).releases = 1
    ∧ ∀ pre, pre <+: ops → pre ≠ ops → (RefSt.run {} pre).releases = 0 := by
  have early : ∀ pre, pre <+: ops → pre ≠ ops → (RefSt.run {} pre).releases = 0 := by
    intro pre hpre hne
    refine no_release {} pre fun q hq _ => ?_
    have hqne : q ≠ ops := by
      rintro rfl
      exact hne (hpre.eq_of_length (Nat.le_antisymm hpre.length_le hq.length_le))
    have := hpos q (hq.trans hpre) hqne
    show count 1 q ≠ 0
    omega
  refine ⟨?_, early⟩
  rcases List.eq_nil_or_concat ops with rfl | ⟨pre, op, rfl⟩
  · cases hzero
  · rw [List.concat_eq_append] at hpos hzero early ⊢
    have hpre : pre <+: pre ++ [op] := ⟨[op], rfl⟩
    have hprene : pre ≠ pre ++ [op] := fun h => by simpa using congrArg List.length h
    rw [count_append] at hzero
    have hz : count 1 pre + delta op = 0 := hzero
    have hop : op ≠ .addRef := by
      rintro rfl
      have := hpos pre hpre hprene
      simp [delta] at hz
      omega
    rw [RefSt.run, List.foldl_append]
    show ((RefSt.run {} pre).step op).releases = 1
    rw [step_releases_of_zero _ op hop (by rw [run_refs]; exact hz), early pre hpre hprene]

/-- `lastRefAtEnd` gives the two hypotheses of `release_once`, here from any start `c` (hence
    `pre ≠ []`: `count c [] = c`). -/
theorem lastRefAtEnd_spec (c : Int) (ops : List RefOp) (h : lastRefAtEnd c ops = true) :
    (∀ pre, pre <+: ops → pre ≠ ops → pre ≠ [] → 1 ≤ count c pre) ∧ count c ops = 0 := by
  fun_induction lastRefAtEnd c ops with
  | case1 => cases h
  | case2 c op =>
    refine ⟨fun pre hpre hne hnil => ?_, by simpa [count] using h⟩
    obtain ⟨a, t, rfl⟩ := List.exists_cons_of_ne_nil hnil
    obtain ⟨rfl, ht⟩ := List.cons_prefix_cons.mp hpre
    rw [List.prefix_nil.mp ht] at hne
    exact absurd rfl hne
  | case3 c op rest _ ih =>
    simp only [Bool.and_eq_true, decide_eq_true_eq] at h
    obtain ⟨ihp, ihz⟩ := ih h.2
    refine ⟨fun pre hpre hne hnil => ?_, ihz⟩
    obtain ⟨a, t, rfl⟩ := List.exists_cons_of_ne_nil hnil
    obtain ⟨rfl, ht⟩ := List.cons_prefix_cons.mp hpre
    show 1 ≤ count (c + delta a) t
    cases t with
    | nil => exact h.1
    | cons b t' => exact ihp _ ht (fun e => hne (by rw [e])) (List.cons_ne_nil _ _)

theorem release_once_of_check (ops : List RefOp) (h : lastRefAtEnd 1 ops = true) :
    (RefSt.run {} ops).releases = 1
    ∧ ∀ pre, pre <+: ops → pre ≠ ops → (RefSt.run {} pre).releases = 0 := by
  have ⟨hp, hz⟩ := lastRefAtEnd_spec 1 ops h
  apply release_once ops _ hz
  intro pre hpre hne
  cases pre with
  | nil => exact Int.le_refl 1
  | cons a t => exact hp _ hpre hne (List.cons_ne_nil a t)

end Zap.Theory.RefCount
