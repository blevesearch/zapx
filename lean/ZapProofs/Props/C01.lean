/-
  Property C01 (headline): for any batch, the built segment reports, for every
  field and term, exactly the documents that contain the term, in increasing
  order, each with its frequency, norm and locations; absent fields / terms give
  empty results; for every supported chunk mode.

  Composition of
    * `dict_entries` / `buildSeg_terms_sorted` (Build/Seg; as `C01_entries_all` / `C01_termsSorted`
      in Props/C01Build): dictionary content;
    * `C07_run` (Props/C07): the postings iterator returns exactly the live entries;
    * `getChunkSize_pos` / `getChunkSize_ok_of_valid` (Props/Codec) on the GENERATED
      `Gen.getChunkSize`.
  `Spec.readAll` is the read path itself: `Seg.postingsList` (dictionary lookup,
  `getChunkSize`), `It.create … true true true`, `numDocs + 1` calls of `Next`.
-/
import ZapProofs.Read.Built
import ZapProofs.Props.C01Build
import ZapProofs.Props.C07
import ZapProofs.Props.Codec

namespace Zap
open Zap.Arr

theorem readAll_eq (pl : PList) (hwf : pl.WF) (k : Nat) (hk : (Spec.live pl).length ≤ k) :
    ((It.create pl true true true).run (List.replicate k Op.next)).filterMap id =
      (Spec.live pl).map (Spec.mkHit pl true true true) := by
  rw [C07_run pl hwf, run_next_filterMap _ _ _ hk]

/-- C01 (headline).  `hmode` is the guard the real build applies (`getChunkSize` succeeds for
    every term's cardinality); `C01_modes` discharges it for every supported mode. -/
theorem C01_postings (vectors : Bool) (mode : Nat) (b : Batch) (hwf : Spec.WF b)
    (hmode : modeOK mode (buildSeg vectors mode b) = true) (n : Name) (t : Bytes) :
    Spec.readAll (buildSeg vectors mode b) n t = .ok (Spec.postings vectors b n t) := by
  unfold Spec.readAll
  rw [postingsList_eq]
  rcases dict_entries vectors mode b hwf n t with ⟨hl, h⟩ | ⟨es, hl, hpost, hasc, _⟩ <;> rw [hl]
  · simp only
    rw [readAll_eq _ ⟨trivial, trivial⟩ _ (Nat.zero_le _), h]
    rfl
  · -- the chunk size: `modeOK` covers this term
    obtain ⟨cs, hcs⟩ := modeOK_lookup hl hmode
    simp only [PostRep.docs, List.length_map] at hcs
    have hlen : es.length ≤ (buildSeg vectors mode b).numDocs + 1 := by
      show es.length ≤ b.length + 1
      have := postings_length_le vectors b n t
      rw [← hpost, List.length_map] at this
      exact Nat.le_succ_of_le this
    have hcs' : Gen.getChunkSize (buildSeg vectors mode b).chunkMode es.length
        (buildSeg vectors mode b).numDocs = .ok cs := hcs
    simp only [hcs']
    have hlive : ∀ names, Spec.live ⟨some (.general es), none, cs, names⟩ = es := fun _ =>
      List.filter_eq_self.2 fun _ _ => rfl
    rw [readAll_eq _ ⟨ascNat_iff_pairwise.2 hasc, Props.Codec.getChunkSize_pos _ _ _ _ hcs⟩ _
      ((hlive _).symm ▸ hlen), hlive, buildSeg_names, ← hpost]
    rfl

/-- C01 (every supported chunk mode): the build guard holds for modes 1..1026.
    `hwf` is needed (a term listed 1024 times in one field instance would make the model's
    cardinality exceed the document count); `h64` is Go's `uint64` range of the cardinality. -/
theorem C01_modes (vectors : Bool) (mode : Nat) (b : Batch) (hwf : Spec.WF b)
    (hm : 1 ≤ mode ∧ mode ≤ 1026) (h64 : b.length < 2 ^ 64) :
    modeOK mode (buildSeg vectors mode b) = true := by
  unfold modeOK
  rw [List.all_eq_true]
  intro f hf
  rw [List.all_eq_true]
  intro p hp
  have hcard := buildSeg_card_le vectors mode b hwf f hf p hp
  have hn : (buildSeg vectors mode b).numDocs = b.length := rfl
  rw [hn]
  have hpos : 0 < b.length := by
    cases b with
    | nil => rw [buildSeg_nil_terms vectors mode hf] at hp; cases hp
    | cons d l => exact Nat.succ_pos _
  obtain ⟨s, hs⟩ := Props.Codec.getChunkSize_ok_of_valid mode p.2.docs.length b.length hm hpos hcard
    (Nat.lt_of_le_of_lt hcard h64)
  rw [hs]

/-- Why `C01_modes` needs `Spec.WF` (clause `termsDistinct`): one document whose field instance
    lists the same term 1024 times gives, in the model, a postings list of cardinality 1024 over a
    single document; mode 1026 then computes `1 / 2 = 0` and the guard fails.  (The real input type
    `TokenFrequencies` is a map and the real postings are a bitmap, so this input cannot arise.) -/
def nonWFBatch : Batch :=
  [ { id := [49], fields := [ { name := [97], len := 1,
                                toks := List.replicate 1024 { term := [120], freq := 1, locs := [] } } ] } ]

theorem events_replicate (k : Nat) (tok : Tok) :
    events false [idName, [97]]
      [{ id := [49], fields := [{ name := [97], len := 1, toks := List.replicate k tok }] }] =
    List.replicate k { fid := 1, term := tok.term, doc := 0, freq := tok.freq, len := 1,
                       locs := tok.locs.map (resolveLoc [idName, [97]] 1) } := by
  have hv : ({ id := [49], fields := [{ name := [97], len := 1, toks := List.replicate k tok }] } : DocIn).visitOrder
      = [{ name := [97], len := 1, toks := List.replicate k tok }] := rfl
  have hid : fieldIdOf [idName, [97]] [97] = 1 := by decide +kernel
  simp only [events, List.zipIdx_cons, List.zipIdx_nil, List.flatMap_cons, List.flatMap_nil, List.append_nil,
    docEvents, docAcc, hv, List.filter_cons, invProcessed, List.filter_nil, if_true, List.foldl_cons, List.foldl_nil,
    accField, List.any_nil, List.nil_append, firstTFs, List.map_replicate, mkEv, hid, Bool.false_eq_true, if_false]

/-- One entry per event (`card_processDocs`), 1024 events for (`a`, `x`), one document:
    `getChunkSize 1026 1024 1` fails. -/
theorem C01_modes_needs_WF : modeOK 1026 (buildSeg false 1026 nonWFBatch) = false := by
  have htbl : fieldTable nonWFBatch = [idName, [97]] := by decide +kernel
  have hn : ([97] : Name) ∈ fieldTable nonWFBatch := by rw [htbl]; exact List.mem_cons_of_mem _ List.mem_cons_self
  have hid : fieldIdOf [idName, [97]] [97] = 1 := by decide +kernel
  have hc : cntE (1, [120]) (events false [idName, [97]] nonWFBatch) = 1024 := by
    rw [nonWFBatch, events_replicate, cntE, List.filter_replicate, if_pos (by decide), List.length_replicate]
  obtain ⟨es, hes, hlen⟩ := card_processDocs false [idName, [97]] nonWFBatch 1 [120] (by decide)
    (by rw [hc]; decide)
  have hl : lookup [120] ((buildSeg false 1026 nonWFBatch).dictTerms [97]) = some (.general es) := by
    rw [lookup_dictTerms false 1026 nonWFBatch (List.cons_ne_nil _ _) [97] [120], if_pos hn, htbl, hid, hes]
    rfl
  apply Bool.eq_false_iff.2
  intro hok
  obtain ⟨cs, hcs⟩ := modeOK_lookup hl hok
  rw [PostRep.docs, List.length_map, hlen, hc] at hcs
  have herr : (Gen.getChunkSize 1026 1024 1).toOption = none := by decide +kernel
  rw [show Gen.getChunkSize 1026 1024 1 = .ok cs from hcs] at herr
  cases herr

/-- C01 for every supported chunk mode, no guard hypothesis. -/
theorem C01_postings_all_modes (vectors : Bool) (mode : Nat) (b : Batch) (hwf : Spec.WF b)
    (hm : 1 ≤ mode ∧ mode ≤ 1026) (h64 : b.length < 2 ^ 64) (n : Name) (t : Bytes) :
    Spec.readAll (buildSeg vectors mode b) n t = .ok (Spec.postings vectors b n t) :=
  C01_postings vectors mode b hwf (C01_modes vectors mode b hwf hm h64) n t

/-- C01 (absent field): a name that no document carries (and that is not `_id`) reads as empty. -/
theorem C01_absent_field (vectors : Bool) (mode : Nat) (b : Batch) (hwf : Spec.WF b)
    (hmode : modeOK mode (buildSeg vectors mode b) = true) (n : Name) (hn : n ∉ Spec.names b) (t : Bytes) :
    Spec.readAll (buildSeg vectors mode b) n t = .ok [] := by
  rw [C01_postings vectors mode b hwf hmode n t, postings_of_unknown vectors b n t hn]

/-- C01 (absent term): a term that no document has in field `n` reads as empty. -/
theorem C01_absent_term (vectors : Bool) (mode : Nat) (b : Batch) (hwf : Spec.WF b)
    (hmode : modeOK mode (buildSeg vectors mode b) = true) (n : Name) (t : Bytes)
    (ht : ∀ d ∈ b, Spec.hasTerm t (Spec.insts vectors d n) = false) :
    Spec.readAll (buildSeg vectors mode b) n t = .ok [] := by
  rw [C01_postings vectors mode b hwf hmode n t, postings_eq_nil vectors b n t ht]

/-- what the specification promises about the result: documents strictly increasing -/
theorem C01_postings_ascending (vectors : Bool) (b : Batch) (n : Name) (t : Bytes) :
    ((Spec.postings vectors b n t).map (·.doc)).Pairwise (· < ·) :=
  List.filterMap_zipIdx_asc (fun doc d => Spec.hitOf vectors n t doc d) (·.doc)
    (fun _ _ _ => hitOf_doc) b 0

/-- … and exactly the documents that have the term in the field -/
theorem C01_postings_docs (vectors : Bool) (b : Batch) (n : Name) (t : Bytes) (k : Nat) :
    k ∈ (Spec.postings vectors b n t).map (·.doc) ↔
      ∃ h : k < b.length, Spec.hasTerm t (Spec.insts vectors b[k] n) = true :=
  Stored.mem_postings_doc vectors b n t k

/-! ### Concrete instances (the batch of `C01Example`, modes 0, 1, 1025 and 1026) -/

namespace C01Example

example : modeOK 1026 (buildSeg false 1026 batch) = true := by decide +kernel

/-- both sides of `C01_postings`, evaluated: the iterator over the built segment (mode 1, i.e. one
    document per chunk) returns the specified hits, with resolved locations -/
example : (Spec.readAll (buildSeg false 1 batch) nAll tX).toOption = some (Spec.postings false batch nAll tX) ∧
    (Spec.readAll (buildSeg false 1 batch) nAll tX).toOption = some
      [ { doc := 0, freq := 3, norm := 3, locs := [⟨nA, 1, 0, 1, []⟩, ⟨nA, 2, 2, 3, []⟩, ⟨nA, 1, 0, 1, [1]⟩] },
        { doc := 1, freq := 2, norm := 2, locs := [⟨nA, 1, 0, 1, []⟩, ⟨nAll, 7, 8, 9, []⟩] } ] := by
  decide +kernel

/-- the theorem applied (hypotheses discharged on the concrete batch) -/
example : Spec.readAll (buildSeg false 1026 batch) nA tX = .ok (Spec.postings false batch nA tX) :=
  C01_postings_all_modes false 1026 batch batch_wf (by decide) (by decide +kernel) nA tX

/-- absent term, absent field, under modes 1025 / 1026 -/
example : (Spec.readAll (buildSeg false 1025 batch) nA [122]).toOption = some [] ∧
    (Spec.readAll (buildSeg false 1026 batch) [122] tX).toOption = some [] := by decide +kernel

/-- mode 0 is rejected by the guard, and then a lookup does fail (so `hmode` is not redundant) -/
example : modeOK 0 (buildSeg false 0 batch) = false ∧
    (match Spec.readAll (buildSeg false 0 batch) nA tX with
     | .error e => e == "ErrChunkSizeZero"
     | .ok _ => false) = true := by decide +kernel

end C01Example

#print axioms C01_postings
#print axioms C01_modes
#print axioms C01_postings_all_modes
#print axioms C01_modes_needs_WF
#print axioms C01_absent_field
#print axioms C01_absent_term
#print axioms C01_postings_ascending
#print axioms C01_postings_docs

end Zap
