/-
  ZapProofs.Props.C09Bytes: byte-level WRITER models (ZapModel/Writer.lean) round-trip
  through the decoder of the documented layout.

  A  stored documents  (`encodeStoredDoc`  = new.go `writeStoredFields`)
  B  posting streams   (`encodeFreqNorm`, `encodeLocs` = the per-term loop of
     `writeDicts` through the chunked int coder; `writePostings` = merge.go
     `writePostings` + intcoder.go `writeAt`)

  Three layers:
   1. round trips for list-level twins of Layout's decoders (`Writer.decodeEntriesL`,
      `Writer.decodeStoredDocL`: same reads, same checks, same order as
      `Layout.readChunks/walkChunks/decFreq/decLocs/decStoredDoc`, over `Bytes` instead of
      `ByteArray` + cursor, with Layout's 10-byte / 64-bit uvarint rule);
   2. simulation: for EVERY `ByteArray`, whatever a twin accepts Layout's own function
      accepts with the same result (`C09_layout_simulates_*`);
   3. hence the round trips against Layout's OWN functions on the file's `ByteArray`
      (`C09_postings_roundtrip_layout`, `C09_stored_roundtrip_layout`).
  `Layout.decPostings` itself is not a possible subject (bitmap lookup in a string-keyed
  `Std.HashMap` oracle, last loop inline): `LayoutDefs.layoutEntries` composes Layout's own
  `readChunks`, `walkChunks`, `decFreq`, `decLocs` exactly as `decPostings` does after the
  lookup (adjacency checks included; documents and chunk size are parameters; the writer-model
  tie at the end of `decPostings` is not part of it).  For stored documents Layout calls its
  array snappy decoder `snappyFast`; the byte-array theorem assumes it decodes `compress data`
  (`FastDecodes`, proved for the all-literals compressor: `C09_fastDecodes_snappyLit`).
-/
import ZapProofs.Writer.Postings
import ZapProofs.Writer.Stored
import ZapProofs.Writer.LayoutDefs
import ZapProofs.Writer.LayoutPostings
import ZapProofs.Writer.LayoutStored
import ZapProofs.Codec.Content

namespace Zap.Props.C09Bytes
open Zap.Codec Zap.Writer

/-- Hypotheses on the entries of one postings list: chunk size positive; documents ascending and at
    most `maxDoc`; all numbers and both stream lengths fit 64 bits (`freq` 63: `encodeFreqHasLocs`
    shifts it left by one in a `uint64`); no norm without a frequency (`hnorm0`: the writer leaves
    the norm out when `freq = 0`, the reader then returns 0). -/
structure EntriesFit (cs maxDoc : Nat) (es : List Entry) : Prop where
  hcs : 0 < cs
  hasc : es.Pairwise (fun a b => a.doc < b.doc)
  hmax : ∀ e ∈ es, e.doc ≤ maxDoc
  hfreq : ∀ e ∈ es, e.freq < 2 ^ 63
  hnorm : ∀ e ∈ es, e.norm < 2 ^ 64
  hnorm0 : ∀ e ∈ es, e.freq = 0 → e.norm = 0
  hnb : ∀ e ∈ es, numLocsBytes e.locs < 2 ^ 64
  hlocs : ∀ e ∈ es, ∀ l ∈ e.locs, ∀ v ∈ locHead l ++ l.ap, v < 2 ^ 64
  hszF : (encodeFreqNorm cs maxDoc es).length < 2 ^ 64
  hszL : (encodeLocs cs maxDoc es).length < 2 ^ 64

/-- Decoding the freq/norm stream and the location stream chunk by chunk, one freq/norm
    item per document of the bitmap and one length-prefixed location block per document
    flagged `hasLocs`, gives back the entries. -/
theorem C09_postings_roundtrip (cs maxDoc : Nat) (es : List Entry) (h : EntriesFit cs maxDoc es)
    (postF postL : Bytes) :
    decodeEntriesL cs (es.map (·.doc)) (encodeFreqNorm cs maxDoc es ++ postF)
      (some (encodeLocs cs maxDoc es ++ postL)) = some es := by
  unfold decodeEntriesL
  rw [Post.freq_walk cs maxDoc es h.hcs h.hasc h.hmax h.hfreq h.hnorm h.hnorm0 h.hszF postF]
  simp only
  rw [List.zip_map', Post.locDocs_eq,
    Post.loc_walk cs maxDoc es h.hcs h.hasc h.hmax h.hnb h.hlocs h.hszL postL]
  exact Post.zipLocs_roundtrip es

/-- `numBytesLocs` is the encoded length of the locations that follow it ... -/
theorem C09_numLocsBytes (ls : List MLoc) :
    numLocsBytes ls = (putUvarints (Post.locVals ls)).length := Post.numLocsBytes_eq ls

/-- ... so `SkipBytes(numLocsBytes)` skips exactly one location block: after the length
    prefix, dropping `numLocsBytes` bytes leaves what follows the block. -/
theorem C09_skipBytes (e : Entry) (rest : Bytes) :
    (putUvarints (Post.locVals e.locs) ++ rest).drop (numLocsBytes e.locs) = rest := by
  rw [Post.numLocsBytes_eq, List.drop_left]

/-- The location decoder consumes exactly one block. -/
theorem C09_decLocs_block (e : Entry) (hnb : numLocsBytes e.locs < 2 ^ 64)
    (hfit : ∀ l ∈ e.locs, ∀ v ∈ locHead l ++ l.ap, v < 2 ^ 64) (rest : Bytes) :
    decLocsL e.doc (putUvarint (numLocsBytes e.locs) ++ putUvarints (Post.locVals e.locs) ++ rest)
      = some (e.locs, rest) := by
  have := Post.decLocsL_blk e hnb hfit rest
  rwa [putUvarints_cons] at this

set_option linter.unusedVariables false in
/-- Empty-stream convention: `writeAt` writes nothing and reports offset 0 exactly when
    no entry has locations (whatever the order and range of the documents: `hasc`, `hmax` are
    not used). -/
theorem C09_empty_loc_stream (cs maxDoc : Nat) (es : List Entry)
    (hasc : es.Pairwise (fun a b => a.doc < b.doc)) (hmax : ∀ e ∈ es, e.doc ≤ maxDoc) :
    locStream? cs maxDoc es
      = if ∀ e ∈ es, e.locs = [] then none else some (encodeLocs cs maxDoc es) :=
  Post.locStream?_eq cs maxDoc es

/-- ... and the reader, told "offset 0" (`none`), still gets the entries back. -/
theorem C09_postings_roundtrip_writeAt (cs maxDoc : Nat) (es : List Entry)
    (h : EntriesFit cs maxDoc es) (postF : Bytes) :
    decodeEntriesL cs (es.map (·.doc)) (encodeFreqNorm cs maxDoc es ++ postF)
      (locStream? cs maxDoc es) = some es := by
  rw [C09_empty_loc_stream cs maxDoc es h.hasc h.hmax]
  by_cases hnl : ∀ e ∈ es, e.locs = []
  · rw [if_pos hnl]
    unfold decodeEntriesL
    rw [Post.freq_walk cs maxDoc es h.hcs h.hasc h.hmax h.hfreq h.hnorm h.hnorm0 h.hszF postF]
    simp only
    have hz := Post.zipLocs_roundtrip es
    rw [Post.filter_hasLocs_nil es hnl] at hz
    rw [List.zip_map', Post.locDocs_eq, Post.filter_hasLocs_nil es hnl]
    simpa using hz
  · rw [if_neg hnl]
    have := C09_postings_roundtrip cs maxDoc es h postF []
    rwa [List.append_nil] at this

/-- The record of `writePostings`: where the three header varints point. -/
theorem C09_postings_record (count cs maxDoc : Nat) (es : List Entry) (roaring : Bytes)
    (hasc : es.Pairwise (fun a b => a.doc < b.doc)) (hmax : ∀ e ∈ es, e.doc ≤ maxDoc)
    (hne : es ≠ []) :
    let out := writePostings count cs maxDoc es roaring
    let lc : Bytes := match locStream? cs maxDoc es with | none => [] | some s => s
    out.tfOffset = count ∧
    out.locOffset = (if ∀ e ∈ es, e.locs = [] then 0 else count + (encodeFreqNorm cs maxDoc es).length) ∧
    out.postingsOffset = count + (encodeFreqNorm cs maxDoc es).length + lc.length ∧
    out.bytes = encodeFreqNorm cs maxDoc es ++ lc ++ putUvarint out.tfOffset ++ putUvarint out.locOffset
      ++ putUvarint roaring.length ++ roaring := by
  have htf : writeAt count cs maxDoc (freqAdds es) = (count, encodeFreqNorm cs maxDoc es) := by
    unfold writeAt
    rw [if_neg (Post.coderFinal_freqAdds_ne_nil cs maxDoc es hne)]
    rfl
  have hls := C09_empty_loc_stream cs maxDoc es hasc hmax
  have hlc : ∀ c, writeAt c cs maxDoc (locAdds es)
      = match locStream? cs maxDoc es with | none => (0, []) | some s => (c, s) := by
    intro c
    unfold writeAt locStream?
    by_cases hf : coderFinal cs maxDoc (locAdds es) = [] <;> simp [hf, encodeLocs]
  by_cases h : ∀ e ∈ es, e.locs = []
  · simp only [writePostings, htf, hlc, hls, if_pos h, and_self]
  · simp only [writePostings, htf, hlc, hls, if_neg h, and_self]

/-- Simulation: on EVERY byte array, if the twin decodes the streams at `fo` / `lo`
    (`lo = 0`: no location stream) to `es` and the streams are back to back up to the
    record at `off`, Layout's own functions return `es`. -/
theorem C09_layout_simulates_postings (b : ByteArray) (cs : Nat) (docs : List Nat) (fo lo off : Nat)
    (es : List Entry) (hfo : fo ≠ 0)
    (h : decodeEntriesL cs docs ((Layout.ofBA b).drop fo)
      (if lo = 0 then none else some ((Layout.ofBA b).drop lo)) = some es)
    (hadjF : ∀ offs data, readChunksL ((Layout.ofBA b).drop fo) = some (offs, data) →
      b.size - data.length + offs.getLastD 0 = if lo = 0 then off else lo)
    (hadjL : lo ≠ 0 → ∀ offs data, readChunksL ((Layout.ofBA b).drop lo) = some (offs, data) →
      b.size - data.length + offs.getLastD 0 = off) :
    LayoutDefs.layoutEntries b cs docs fo lo off = .ok es :=
  LP.layoutEntries_sim b cs docs fo lo off es hfo h hadjF hadjL

/-- Round trip against Layout's OWN `readChunks` / `walkChunks` / `decFreq` / `decLocs`:
    any byte array that holds, after `pre`, what `writePostings` emits decodes at the
    offsets `writePostings` records to the entries. -/
theorem C09_postings_roundtrip_layout (b : ByteArray) (pre post roaring : Bytes) (cs maxDoc : Nat)
    (es : List Entry) (h : EntriesFit cs maxDoc es) (hpre : 0 < pre.length) (hne : es ≠ [])
    (hb : Layout.ofBA b = pre ++ (writePostings pre.length cs maxDoc es roaring).bytes ++ post) :
    LayoutDefs.layoutEntries b cs (es.map (·.doc))
      (writePostings pre.length cs maxDoc es roaring).tfOffset
      (writePostings pre.length cs maxDoc es roaring).locOffset
      (writePostings pre.length cs maxDoc es roaring).postingsOffset = .ok es := by
  obtain ⟨h1, h2, h3, h4⟩ := C09_postings_record pre.length cs maxDoc es roaring h.hasc h.hmax hne
  have hls := C09_empty_loc_stream cs maxDoc es h.hasc h.hmax
  -- the file: `pre`, the freq/norm stream, the location stream if any, then the record and `post`
  rw [h4, h1] at hb
  simp only [List.append_assoc] at hb
  generalize putUvarint pre.length ++ (putUvarint _ ++ (putUvarint roaring.length ++ (roaring ++ post)))
    = tail at hb
  have hdropF := congrArg (List.drop pre.length) hb
  rw [List.drop_left] at hdropF
  have hadjF := Post.stream_endAbs (Layout.ofBA b) pre.length cs maxDoc (freqAdds es)
    (Post.freqAdds_mono es h.hasc) (Post.freqAdds_max es maxDoc h.hmax) h.hszF _ hdropF
  rw [BA.ofBA_length] at hadjF
  rw [h1, h2, h3]
  by_cases hnl : ∀ e ∈ es, e.locs = []
  · rw [if_pos hnl] at hls ⊢
    rw [hls] at hb hdropF ⊢
    apply C09_layout_simulates_postings b cs _ pre.length 0 _ es (Nat.ne_of_gt hpre)
    · rw [if_pos rfl, hdropF]
      have := C09_postings_roundtrip_writeAt cs maxDoc es h ([] ++ tail)
      rwa [hls] at this
    · intro offs data hr
      rw [if_pos rfl]
      exact hadjF offs data hr
    · intro h0
      exact absurd rfl h0
  · rw [if_neg hnl] at hls ⊢
    rw [hls] at hb hdropF ⊢
    have hdropL : (Layout.ofBA b).drop (pre.length + (encodeFreqNorm cs maxDoc es).length)
        = encodeLocs cs maxDoc es ++ tail := by
      rw [← List.drop_drop, hdropF, List.drop_left]
    have hlo : pre.length + (encodeFreqNorm cs maxDoc es).length ≠ 0 := Nat.ne_of_gt (Nat.add_pos_left hpre _)
    apply C09_layout_simulates_postings b cs _ pre.length _ _ es (Nat.ne_of_gt hpre)
    · rw [if_neg hlo, hdropF, hdropL]
      exact C09_postings_roundtrip cs maxDoc es h _ _
    · intro offs data hr
      rw [if_neg hlo]
      exact hadjF offs data hr
    · intro _ offs data hr
      have := Post.stream_endAbs (Layout.ofBA b) _ cs maxDoc (locAdds es) (Post.locAdds_mono es h.hasc)
        (Post.locAdds_max es maxDoc h.hmax) h.hszL _ hdropL offs data hr
      rwa [BA.ofBA_length] at this

/-- The same for the `ByteArray` made of a byte list (`Layout.decodeFile` does
    `toBA bs`). -/
theorem C09_postings_roundtrip_file (pre post roaring : Bytes) (cs maxDoc : Nat)
    (es : List Entry) (h : EntriesFit cs maxDoc es) (hpre : 0 < pre.length) (hne : es ≠ [])
    (hbytes : ∀ x ∈ pre ++ (writePostings pre.length cs maxDoc es roaring).bytes ++ post, x < 256) :
    LayoutDefs.layoutEntries
      (Layout.toBA (pre ++ (writePostings pre.length cs maxDoc es roaring).bytes ++ post)) cs
      (es.map (·.doc))
      (writePostings pre.length cs maxDoc es roaring).tfOffset
      (writePostings pre.length cs maxDoc es roaring).locOffset
      (writePostings pre.length cs maxDoc es roaring).postingsOffset = .ok es :=
  C09_postings_roundtrip_layout _ pre post roaring cs maxDoc es h hpre hne (BA.ofBA_toBA _ hbytes)

theorem C09_stored_roundtrip (compress : Bytes → Bytes)
    (hsn : ∀ x, snappyDecode (compress x) = some x) (sd : StoredDoc)
    (hsz : (encodeStoredDoc compress sd).length < 2 ^ 64) (pre post : Bytes) :
    decodeStoredDocL (pre ++ encodeStoredDoc compress sd ++ post) pre.length = some sd :=
  Stored.decodeStoredDocL_roundtrip compress hsn sd hsz pre post

/-- Simulation: on EVERY decoding context, if the twin decodes the record at `off` to `sd`
    and Layout's array snappy decoder decodes the record's snappy block to what
    `Codec.snappyDecode` decodes it to (`FastAgrees`), `Layout.decStoredDoc` returns `sd`. -/
theorem C09_layout_simulates_stored (c : Layout.Ctx) (doc off : Nat) (sd : StoredDoc)
    (hfast : ∀ s e, storedBlockL (Layout.ofBA c.b) off = some (s, e) → LS.FastAgrees c.b s e)
    (h : decodeStoredDocL (Layout.ofBA c.b) off = some sd) : Layout.decStoredDoc c doc off = .ok sd := by
  obtain ⟨ml, dl, p, idLen, groups, raw, H, hblk, hsn, hgr, hid⟩ := LS.twin_header c.b off sd h
  obtain ⟨rawB, f1, rfl⟩ := hfast _ _ hblk raw hsn
  rw [LS.decStoredDoc_header c doc off ml dl p idLen groups H, f1]
  simp only [Except.bind, LS.storedGo_sim doc _ _ _ #[] _ hgr, ← hid]
  rfl

/-- Round trip against Layout's OWN `decStoredDoc`. -/
theorem C09_stored_roundtrip_layout (compress : Bytes → Bytes)
    (hsn : ∀ x, snappyDecode (compress x) = some x) (sd : StoredDoc)
    (hfd : LS.FastDecodes compress (storedData sd.vals))
    (hsz : (encodeStoredDoc compress sd).length < 2 ^ 64) (c : Layout.Ctx) (doc : Nat) (pre post : Bytes)
    (hb : Layout.ofBA c.b = pre ++ encodeStoredDoc compress sd ++ post) :
    Layout.decStoredDoc c doc pre.length = .ok sd := by
  apply C09_layout_simulates_stored c doc pre.length sd
  · intro s e hblk raw hdec
    -- the snappy block of the written record is `compress (storedData sd.vals)`
    obtain ⟨s', h1, hsize, hreg⟩ := LS.storedBlock_region compress sd hsz c.b pre post hb
    rw [h1] at hblk
    simp only [Option.some.injEq, Prod.mk.injEq] at hblk
    obtain ⟨rfl, rfl⟩ := hblk
    rw [hreg, hsn] at hdec
    cases hdec
    exact hfd c.b _ hsize hreg
  · rw [hb]
    exact C09_stored_roundtrip compress hsn sd hsz pre post

/-- The hypotheses on `compress` are satisfiable: the all-literals snappy encoder
    (`snappyLit`, a valid snappy stream) on data of at most 2^32 bytes (`snappyFast`, like
    Go's snappy, refuses longer blocks). -/
theorem C09_fastDecodes_snappyLit (x : Bytes) (hx : x.length ≤ 2 ^ 32) : LS.FastDecodes snappyLit x :=
  LS.fastDecodes_snappyLit x hx

theorem C09_stored_roundtrip_layout_lit (sd : StoredDoc) (hx : (storedData sd.vals).length ≤ 2 ^ 32)
    (hsz : (encodeStoredDoc snappyLit sd).length < 2 ^ 64) (c : Layout.Ctx) (doc : Nat) (pre post : Bytes)
    (hb : Layout.ofBA c.b = pre ++ encodeStoredDoc snappyLit sd ++ post) :
    Layout.decStoredDoc c doc pre.length = .ok sd :=
  C09_stored_roundtrip_layout snappyLit snappyDecode_snappyLit sd (C09_fastDecodes_snappyLit _ hx) hsz c doc
    pre post hb

/-- The unrestricted statement against Layout's own decoder - assuming of `compress` only that
    `Codec.snappyDecode` inverts it - is FALSE: counterexample `LS.bigDoc` (one value of
    2^32 + 1 bytes) with the all-literals compressor; Layout's array decoder `snappyFast`
    refuses blocks announcing more than 2^32 bytes (as Go's snappy does), the list decoder
    `Codec.snappyDecode` has no such limit.  `C09_stored_roundtrip_layout` (hypothesis
    `FastDecodes`; below once more under the name `…_partial`) is the true variant;
    `C09_stored_roundtrip` (twin) needs nothing more. -/
theorem C09_stored_roundtrip_layout_full_false : ¬ LS.stored_roundtrip_layout_full :=
  LS.stored_roundtrip_layout_full_false

theorem C09_stored_roundtrip_layout_partial (compress : Bytes → Bytes)
    (hsn : ∀ x, snappyDecode (compress x) = some x) (sd : StoredDoc)
    (hfd : LS.FastDecodes compress (storedData sd.vals))
    (hsz : (encodeStoredDoc compress sd).length < 2 ^ 64) (c : Layout.Ctx) (doc : Nat) (pre post : Bytes)
    (hb : Layout.ofBA c.b = pre ++ encodeStoredDoc compress sd ++ post) :
    Layout.decStoredDoc c doc pre.length = .ok sd :=
  C09_stored_roundtrip_layout compress hsn sd hfd hsz c doc pre post hb

/-! ### concrete instances

The examples that pin bytes and offsets of the encoders (`encodeFreqNorm`, `encodeLocs`,
`numLocsBytes`, `locStream?`, `writePostings`, `encodeStoredDoc`) and the rejecting one (wrong
chunk size) are evaluated.  The round trips, through the twins and through Layout's OWN functions
on the `ByteArray` of the file, instantiate the theorems above: they show that the hypotheses
(`EntriesFit`, sizes, byte range) are met by concrete data, evaluated once per data set; the
decoders themselves are not run (but for the twin on the empty document `sd2`). -/

section Examples
open Zap.Layout Zap.Writer.LayoutDefs

theorem isOk_of_eq {α : Type} [DecidableEq α] {r : R α} {a : α} (h : r = .ok a) : isOk r a = true := by
  rw [h]
  simp [isOk]

/-- three chunks of size 2 (docs 0..5), the middle one empty; entry 2 has `freq = 0`
    (norm omitted); entry 1 has no locations; a two-byte and a three-byte varint. -/
def es1 : List Entry := [
  { doc := 0, freq := 2, norm := 1065353216,
    locs := [{ fid := 1, pos := 1, start := 0, stop := 5, ap := [] },
             { fid := 1, pos := 7, start := 300, stop := 305, ap := [2, 70000] }] },
  { doc := 1, freq := 1, norm := 7, locs := [] },
  { doc := 4, freq := 0, norm := 0, locs := [{ fid := 3, pos := 1, start := 0, stop := 1, ap := [] }] } ]

/-- no entry has locations -/
def es2 : List Entry := [
  { doc := 3, freq := 1, norm := 9, locs := [] }, { doc := 700, freq := 5, norm := 300, locs := [] } ]

example : encodeFreqNorm 2 5 es1 = [3, 8, 8, 9, 5, 128, 128, 128, 252, 3, 2, 7, 1] := by decide +kernel
example : encodeLocs 2 5 es1
    = [3, 17, 17, 23, 16, 1, 1, 0, 5, 0, 1, 7, 172, 2, 177, 2, 2, 2, 240, 162, 4, 5, 3, 1, 0, 1, 0] := by
  decide +kernel
example : numLocsBytes (es1[0]!).locs = 16 := by decide +kernel

theorem es1_fit : EntriesFit 2 5 es1 :=
  ⟨by decide, by decide +kernel, by decide +kernel, by decide +kernel, by decide +kernel, by decide +kernel,
   by decide +kernel, by decide +kernel, by decide +kernel, by decide +kernel⟩

theorem es2_fit : EntriesFit 1024 700 es2 :=
  ⟨by decide, by decide +kernel, by decide +kernel, by decide +kernel, by decide +kernel, by decide +kernel,
   by decide +kernel, by decide +kernel, by decide +kernel, by decide +kernel⟩

example : decodeEntriesL 2 [0, 1, 4] (encodeFreqNorm 2 5 es1 ++ [1, 2, 3])
    (some (encodeLocs 2 5 es1 ++ [9])) = some es1 :=
  C09_postings_roundtrip 2 5 es1 es1_fit [1, 2, 3] [9]
example : locStream? 2 5 es1 = some (encodeLocs 2 5 es1) := by decide +kernel
example : locStream? 1024 700 es2 = none := by decide +kernel
example : decodeEntriesL 1024 [3, 700] (encodeFreqNorm 1024 700 es2) (locStream? 1024 700 es2)
    = some es2 := by
  have h := C09_postings_roundtrip_writeAt 1024 700 es2 es2_fit []
  rwa [List.append_nil] at h
example : (writePostings 100 1024 700 es2 [58, 48]).locOffset = 0 := by decide +kernel
-- a wrong chunk size is detected (documents do not sit in the chunks the reader expects)
example : decodeEntriesL 3 [0, 1, 4] (encodeFreqNorm 2 5 es1) (some (encodeLocs 2 5 es1)) = none := by
  decide +kernel

def out1 : PostingsOut := writePostings 3 2 5 es1 [58, 48, 0, 0]

example : (out1.tfOffset, out1.locOffset, out1.postingsOffset) = (3, 16, 43) := by decide +kernel

example : isOk (layoutEntries (toBA ([9, 9, 9] ++ out1.bytes ++ [1, 2])) 2 [0, 1, 4]
    out1.tfOffset out1.locOffset out1.postingsOffset) es1 = true :=
  isOk_of_eq (C09_postings_roundtrip_file [9, 9, 9] [1, 2] [58, 48, 0, 0] 2 5 es1 es1_fit (by decide)
    (by decide) (by decide +kernel))

example : isOk (layoutEntries (toBA ([9] ++ (writePostings 1 1024 700 es2 [58]).bytes)) 1024 [3, 700]
    1 0 (writePostings 1 1024 700 es2 [58]).postingsOffset) es2 = true := by
  have h := C09_postings_roundtrip_file [9] [] [58] 1024 700 es2 es2_fit (by decide) (by decide)
    (by decide +kernel)
  have hr := C09_postings_record 1 1024 700 es2 [58] es2_fit.hasc es2_fit.hmax (by decide)
  rw [List.append_nil, show ([9] : Bytes).length = 1 from rfl, hr.1, hr.2.1, if_pos (by decide)] at h
  exact isOk_of_eq h

def sd1 : StoredDoc := { id := [100, 49], vals := [
  { fid := 1, typ := 116, val := [104, 105], ap := [] },
  { fid := 2, typ := 110, val := [1, 2, 3, 4, 5, 6, 7, 8], ap := [0, 300] },
  { fid := 2, typ := 116, val := [], ap := [1] } ] }

def sd2 : StoredDoc := { id := [], vals := [] }

def sd3 : StoredDoc := { id := List.replicate 20 120, vals := [
  { fid := 7, typ := 100, val := List.replicate 25 65, ap := [5, 6, 7] },
  { fid := 300, typ := 116, val := [255, 0, 255], ap := [] } ] }

example : encodeStoredDoc snappyLit sd1
    = [20, 23, 2, 1, 116, 0, 2, 0, 2, 110, 2, 8, 2, 0, 172, 2, 2, 116, 10, 0, 1, 1, 100, 49, 10, 0,
       104, 0, 105, 0, 1, 0, 2, 0, 3, 0, 4, 0, 5, 0, 6, 0, 7, 0, 8] := by decide +kernel
example : decodeStoredDocL ([9, 9, 9] ++ encodeStoredDoc snappyLit sd1 ++ [7, 7]) 3 = some sd1 :=
  C09_stored_roundtrip snappyLit snappyDecode_snappyLit sd1 (by decide +kernel) [9, 9, 9] [7, 7]
example : decodeStoredDocL (encodeStoredDoc snappyLit sd2) 0 = some sd2 := by decide +kernel
example : decodeStoredDocL ([1] ++ encodeStoredDoc snappyLit sd3) 1 = some sd3 := by
  have h := C09_stored_roundtrip snappyLit snappyDecode_snappyLit sd3 (by decide +kernel) [1] []
  rwa [List.append_nil] at h

/-- `C09_stored_roundtrip_layout_lit` for a file made with `toBA`; the side conditions are left
    to evaluation on the document at hand. -/
theorem isOk_decStoredDoc_lit (sd : StoredDoc) (pre post file : Bytes) (numDocs mode doc off : Nat)
    (hfile : file = pre ++ encodeStoredDoc snappyLit sd ++ post) (hoff : off = pre.length)
    (hx : (storedData sd.vals).length ≤ 2 ^ 32) (hbytes : ∀ x ∈ file, x < 256)
    (hsz : (encodeStoredDoc snappyLit sd).length < 2 ^ 64) :
    isOk (decStoredDoc (ctxOf file numDocs mode) doc off) sd = true := by
  subst hoff
  exact isOk_of_eq (C09_stored_roundtrip_layout_lit sd hx hsz _ doc pre post
    ((BA.ofBA_toBA _ hbytes).trans hfile))

example : isOk (decStoredDoc (ctxOf ([9, 9, 9] ++ encodeStoredDoc snappyLit sd1 ++ [7, 7]) 1 1026) 0 3) sd1
    = true :=
  isOk_decStoredDoc_lit sd1 [9, 9, 9] [7, 7] _ 1 1026 0 3 rfl rfl (by decide +kernel) (by decide +kernel)
    (by decide +kernel)
example : isOk (decStoredDoc (ctxOf (encodeStoredDoc snappyLit sd2) 1 1026) 0 0) sd2 = true :=
  isOk_decStoredDoc_lit sd2 [] [] _ 1 1026 0 0 (List.append_nil _).symm rfl (by decide +kernel)
    (by decide +kernel) (by decide +kernel)
example : isOk (decStoredDoc (ctxOf ([1] ++ encodeStoredDoc snappyLit sd3) 1 1026) 0 1) sd3 = true :=
  isOk_decStoredDoc_lit sd3 [1] [] _ 1 1026 0 1 (List.append_nil _).symm rfl (by decide +kernel)
    (by decide +kernel) (by decide +kernel)

end Examples

#print axioms C09_postings_roundtrip
#print axioms C09_numLocsBytes
#print axioms C09_skipBytes
#print axioms C09_decLocs_block
#print axioms C09_empty_loc_stream
#print axioms C09_postings_roundtrip_writeAt
#print axioms C09_postings_record
#print axioms C09_stored_roundtrip
#print axioms C09_layout_simulates_postings
#print axioms C09_postings_roundtrip_layout
#print axioms C09_postings_roundtrip_file
#print axioms C09_layout_simulates_stored
#print axioms C09_stored_roundtrip_layout
#print axioms C09_fastDecodes_snappyLit
#print axioms C09_stored_roundtrip_layout_lit
#print axioms C09_stored_roundtrip_layout_full_false
#print axioms C09_stored_roundtrip_layout_partial

end Zap.Props.C09Bytes
