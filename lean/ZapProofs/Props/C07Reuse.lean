/-
  Property C07, reuse clause: "the same holds when a postings list or iterator object is passed
  back in as preallocation for a different term, field or segment".

  Model: ZapModel/Reuse.lean (the reuse branches of dict.go `postingsListInit`, posting.go
  `PostingsList.iterator`, thesaurus.go `synonymsListInit`, parametrised by which retained buffer
  is cleared); the flags of the real source are read from the GENERATED table
  `Zap.Gen.Facts.preservedCleared`.  Property theorems only; lemmas in ZapProofs/Read/Reuse.lean.
-/
import ZapProofs.Read.Reuse
import ZapProofs.Props.C07

namespace Zap
open Zap.Reuse

/-- REUSED POSTINGS LIST.  If the reuse branch `Clear()`s the retained bitmap, then whatever the
    recycled object held before (any previous segment / field / term / exclusion), looking up any
    (segment, field, term, exclusion) — `tgt` is what a fresh lookup yields, `tgt.rep = none` for an
    absent term — gives an object with the fresh object's `Count`, actual bitmap / 1-hit accessor and
    answers to every `Next` / `Advance` sequence under every detail flags. -/
theorem C07_reuse_list (fl : Flags) (hfl : fl.postings = true) (old : Option PLObj) (tgt : PList) :
    Beh (PLObj.lookup fl old tgt).view tgt := by
  cases hrep : tgt.rep with
  | none =>
    have ht : Hollow tgt := Or.inl hrep
    cases old with
    | none =>
      rw [view_lookup_absent_fresh fl tgt hrep]
      exact beh_hollow (Or.inl rfl) ht
    | some o =>
      rw [view_lookup_absent fl hfl o tgt hrep]
      refine beh_hollow ?_ ht
      cases o.postings with
      | none => exact Or.inl rfl
      | some _ => exact Or.inr rfl
  | some r =>
    cases r with
    | general es =>
      rw [view_lookup_general fl old tgt es hrep]
      exact ⟨rfl, fun _ _ _ => ⟨rfl, fun _ => rfl⟩⟩
    | oneHit d nb => rw [view_lookup_oneHit fl old tgt d nb hrep]; exact beh_oneHit tgt d nb 0 hrep

/-- "TERM NOT FOUND" on a recycled list (`postingsListInit` clears the bitmap, the list is returned
    without `read`): it is empty — count 0, nothing live, every call answers nil. -/
theorem C07_reuse_absent (fl : Flags) (hfl : fl.postings = true) (old : Option PLObj) (tgt : PList)
    (habs : tgt.rep = none) (f n l : Bool) (ops : List Op) :
    (PLObj.lookup fl old tgt).view.count = 0 ∧
    (It.create (PLObj.lookup fl old tgt).view f n l).live = [] ∧
    (It.create (PLObj.lookup fl old tgt).view f n l).run ops = ops.map (fun _ => none) := by
  obtain ⟨h1, h2⟩ := C07_reuse_list fl hfl old tgt
  have ht : Hollow tgt := Or.inl habs
  exact ⟨by rw [h1, hollow_count ht], by rw [(h2 f n l).1, hollow_live ht],
    by rw [(h2 f n l).2, hollow_run ht]⟩

/-- REUSED ITERATOR on any postings list `p` (fresh or itself recycled): if the reuse branch
    `reset()`s the two retained readers, then for every previous state of the iterator object (any
    readers, chunk bytes, positions, `nextLocs`, `nextSegmentLocs`, `buf` content) the recycled
    iterator answers as a fresh one.  The flags of `nextLocs`, `nextSegmentLocs`, `buf` are NOT
    hypotheses: those buffers are written before they are read (`fillLocs_shown`,
    `bytes1Hit_shown`). -/
theorem C07_reuse_iterator (fl : Flags) (h2 : fl.freqNormReader = true) (h3 : fl.locReader = true)
    (old : Option ItObj) (src : Src) (p : PList) (f n l : Bool) (ops : List Op) :
    (ItObj.recycle fl old src p f n l).live = (It.create p f n l).live ∧
    (ItObj.recycle fl old src p f n l).run ops = (It.create p f n l).run ops := by
  rw [run_it, ItObj.live, recycle_it fl h2 h3]
  exact ⟨rfl, rfl⟩

/-- C07, REUSE: recycled list, then recycled iterator on it, against the fresh objects. -/
theorem C07_reuse (fl : Flags) (h1 : fl.postings = true) (h2 : fl.freqNormReader = true)
    (h3 : fl.locReader = true)
    (oldList : Option PLObj) (oldIter : Option ItObj) (src : Src) (tgt : PList) (f n l : Bool)
    (ops : List Op) :
    let pl := (PLObj.lookup fl oldList tgt).view
    let it := ItObj.recycle fl oldIter src pl f n l
    pl.count = tgt.count ∧
    it.live = (It.create tgt f n l).live ∧
    it.run ops = (It.create tgt f n l).run ops := by
  intro pl it
  obtain ⟨b1, b2⟩ := C07_reuse_list fl h1 oldList tgt
  obtain ⟨i1, i2⟩ := C07_reuse_iterator fl h2 h3 oldIter src pl f n l ops
  exact ⟨b1, i1.trans (b2 f n l).1, i2.trans ((b2 f n l).2 ops)⟩

/-- … hence, with `C07_run` / `C07_count` / `C07_live`, the recycled objects meet the specification. -/
theorem C07_reuse_spec (fl : Flags) (h1 : fl.postings = true) (h2 : fl.freqNormReader = true)
    (h3 : fl.locReader = true)
    (oldList : Option PLObj) (oldIter : Option ItObj) (src : Src) (tgt : PList) (hwf : tgt.WF)
    (f n l : Bool) (ops : List Op) :
    let pl := (PLObj.lookup fl oldList tgt).view
    let it := ItObj.recycle fl oldIter src pl f n l
    pl.count = (Spec.live tgt).length ∧
    it.live = (Spec.live tgt).map (·.doc) ∧
    it.run ops = Spec.run (Spec.mkHit tgt f n l) (Spec.live tgt) ops := by
  intro pl it
  obtain ⟨a, b, c⟩ := C07_reuse fl h1 h2 h3 oldList oldIter src tgt f n l ops
  exact ⟨a.trans (C07_count tgt), b.trans (C07_live tgt f n l), c.trans (C07_run tgt hwf f n l ops)⟩

/-- the readers a recycled iterator USES and its bytes-read statistic are those of a fresh one
    (this is what `locReader.reset()` is observably for, see the example below) -/
theorem C07_reuse_readers (fl : Flags) (h2 : fl.freqNormReader = true) (h3 : fl.locReader = true)
    (old : Option ItObj) (src : Src) (p : PList) (es : List Entry) (hrep : p.rep = some (.general es))
    (f n l : Bool) :
    (ItObj.recycle fl old src p f n l).bytesRead = (ItObj.recycle fl none src p f n l).bytesRead ∧
    ((f || n || l) = true →
      (ItObj.recycle fl old src p f n l).fnR = (ItObj.recycle fl none src p f n l).fnR) ∧
    (l = true → (ItObj.recycle fl old src p f n l).locR = (ItObj.recycle fl none src p f n l).locR) := by
  unfold ItObj.recycle
  rw [hrep]
  cases old with
  | none => exact ⟨rfl, fun _ => rfl, fun _ => rfl⟩
  | some o =>
    -- `reset()` zeroes `bytesRead`, `newChunkedIntDecoder` re-assigns `data` and `chunkOffsets`
    simp only [h2, h3, if_true, newDecoder_reset]
    refine ⟨?_, fun hf => ?_, fun hl => ?_⟩
    · cases (f || n || l) <;> cases l <;> rfl
    · rw [if_pos hf, if_pos hf]
    · rw [if_pos hl, if_pos hl]

/-- REUSED SYNONYMS LIST: with `synonyms.Clear()`, the codes are those of the term looked up
    (none for an absent term), whatever the object held; the `buffer` flag is not needed
    (`buffer.Reset(roaringBytes)` precedes `ReadFrom`). -/
theorem C07_reuse_synonyms (fl : Flags) (hfl : fl.synonyms = true) (old : Option SLObj)
    (tgt : Option (List Nat)) (ex : Option (List Nat)) :
    (SLObj.lookup fl old tgt ex).codes = tgt.getD [] := by
  unfold SLObj.lookup SLObj.codes
  cases tgt with
  | some bytes => cases old <;> rfl
  | none =>
    cases old with
    | none => rfl
    | some o =>
      simp only [hfl, if_true]
      cases o.synonyms <;> rfl

/-! ### The flags of the real source (generated facts) -/

/-- the generated table yields exactly the flags the theorems need (all cleared, except `buf`) -/
theorem C07_flags_extracted : flagsOf Gen.Facts.preservedCleared = some Flags.source := by decide +kernel

/-- exactly the modelled buffers survive `*rv = T{}`; every one has an entry; nothing UNRECOGNISED -/
theorem C07_preserved_ok : preservedOK Gen.Facts.preserved Gen.Facts.preservedCleared = true := by
  decide +kernel

/-- the expected entries, asserted positively -/
theorem C07_flags_entries :
    ("Dictionary.postingsListInit", "postings", true) ∈ Gen.Facts.preservedCleared ∧
    ("PostingsList.iterator", "freqNormReader", true) ∈ Gen.Facts.preservedCleared ∧
    ("PostingsList.iterator", "locReader", true) ∈ Gen.Facts.preservedCleared ∧
    ("PostingsList.iterator", "nextLocs", true) ∈ Gen.Facts.preservedCleared ∧
    ("PostingsList.iterator", "nextSegmentLocs", true) ∈ Gen.Facts.preservedCleared ∧
    ("PostingsList.iterator", "buf", false) ∈ Gen.Facts.preservedCleared ∧
    ("Thesaurus.synonymsListInit", "synonyms", true) ∈ Gen.Facts.preservedCleared ∧
    ("Thesaurus.synonymsListInit", "buffer", true) ∈ Gen.Facts.preservedCleared := by
  decide +kernel

/-- INSTANCE: for the flags read from the source of the tree being checked, reuse is safe. -/
theorem C07_reuse_source (fl : Flags) (hfl : flagsOf Gen.Facts.preservedCleared = some fl)
    (oldList : Option PLObj) (oldIter : Option ItObj) (src : Src) (tgt : PList) (hwf : tgt.WF)
    (f n l : Bool) (ops : List Op) :
    let pl := (PLObj.lookup fl oldList tgt).view
    let it := ItObj.recycle fl oldIter src pl f n l
    pl.count = (Spec.live tgt).length ∧
    it.live = (Spec.live tgt).map (·.doc) ∧
    it.run ops = Spec.run (Spec.mkHit tgt f n l) (Spec.live tgt) ops := by
  have : fl = Flags.source := by
    rw [C07_flags_extracted] at hfl
    exact (Option.some.inj hfl).symm
  subst this
  exact C07_reuse_spec Flags.source rfl rfl rfl oldList oldIter src tgt hwf f n l ops

/-- an extraction failure, a missing entry, a duplicated entry and an extra surviving field are
    all rejected -/
example :
    preservedOK (("Dictionary.postingsListInit", ["UNRECOGNISED reuse branch"]) :: Gen.Facts.preserved.drop 1)
      Gen.Facts.preservedCleared = false ∧
    preservedOK (("Dictionary.postingsListInit", ["postings", "except"]) :: Gen.Facts.preserved.drop 1)
      Gen.Facts.preservedCleared = false ∧
    flagsOf (Gen.Facts.preservedCleared.drop 1) = none ∧
    flagsOf (("Dictionary.postingsListInit", "postings", false) :: Gen.Facts.preservedCleared) = none ∧
    flagsOf (("Dictionary.postingsListInit", "postings", false) :: Gen.Facts.preservedCleared.drop 1) =
      some { Flags.source with postings := false } := by
  decide +kernel

/-! ### Non-vacuity, and why the two kinds of flag matter -/

namespace C07ReuseExample
open C07Example

/-- a list that last held the general postings {3, 5} of some other term -/
def usedList : PLObj :=
  { postings := some [3, 5], oneHit := none,
    stream := [ { doc := 3, freq := 1, norm := 1, locs := [] }, { doc := 5, freq := 1, norm := 1, locs := [] } ],
    except := none, chunkSize := 4, names := [[120]] }

/-- the lookup of a term that the new segment does not have -/
def absent : PList := { rep := none, except := some [7], chunkSize := 0, names := [[102]] }

def noClear : Flags := { Flags.source with postings := false }
def noFnReset : Flags := { Flags.source with freqNormReader := false }
def noLocReset : Flags := { Flags.source with locReader := false }

/-- with the source's flags: empty, though the object is structurally not the fresh one (the bitmap
    pointer is non-nil, so `Iterator()` does not return `emptyPostingsIterator`) -/
example :
    (PLObj.lookup Flags.source (some usedList) absent).view.count = 0 ∧
    (PLObj.lookup Flags.source (some usedList) absent).view.rep = some (.general []) ∧
    (PLObj.lookup Flags.source none absent).view.rep = none ∧
    (ItObj.recycle Flags.source none ⟨1, [], []⟩ (PLObj.lookup Flags.source (some usedList) absent).view
      true true true).run [.next, .advance 4] = [none, none] := by
  decide +kernel

/-- WITHOUT `postings.Clear()`: the absent term shows the previous term's documents -/
theorem no_clear_stale_postings :
    (PLObj.lookup noClear (some usedList) absent).view.count = 2 ∧
    (It.create (PLObj.lookup noClear (some usedList) absent).view false false false).run [.next, .next, .next] =
      [ some { doc := 3, freq := 0, norm := 0, locs := [] }, some { doc := 5, freq := 0, norm := 0, locs := [] },
        none ] ∧
    absent.count = 0 ∧
    (It.create absent false false false).run [.next, .next, .next] = [none, none, none] := by
  decide +kernel

/-- … whereas a FOUND term is immune (`FromBuffer` replaces the content): the flag matters only on
    the path that returns without `read` -/
example : (PLObj.lookup noClear (some usedList) p0).view.count = p0.count := by decide +kernel

/-- an iterator that was really used: created on another term (documents 0 and 1 in chunk 0, 6 in
    chunk 1) with all details, one `Next` consumed; its freq/norm reader has chunk 0 loaded and is
    positioned on the entry of document 1 (frequency 8) -/
def otherTerm : PList :=
  { rep := some (.general [ { doc := 0, freq := 9, norm := 1, locs := [ml 7] },
                            { doc := 1, freq := 8, norm := 1, locs := [ml 8] },
                            { doc := 6, freq := 7, norm := 1, locs := [] } ]),
    except := none, chunkSize := 4, names := [[120]] }

def usedIter : ItObj :=
  ((ItObj.recycle Flags.source none ⟨7, [3, 9], [2, 5]⟩ otherTerm true true true).step .next).1

example : usedIter.it.loaded = true ∧ usedIter.it.currChunk = 0 ∧ usedIter.it.fn.map (·.freq) = [8] ∧
    usedIter.bytesRead = 6 := by decide +kernel

def src0 : Src := ⟨1, [4, 9, 11, 15, 20], [6, 6, 10, 14, 18]⟩

/-- with the source's flags the recycled iterator answers as `C07_run` says -/
example :
    (ItObj.recycle Flags.source (some usedIter) src0 p0 true true true).run ops0 =
      (It.create p0 true true true).run ops0 ∧
    (ItObj.recycle Flags.source (some usedIter) src0 p0 true true true).run ops0 =
    [ some { doc := 1,  freq := 2, norm := 7, locs := [loc 1, loc 5] },
      some { doc := 4,  freq := 1, norm := 9, locs := [] },
      some { doc := 9,  freq := 3, norm := 5, locs := [loc 3] },
      some { doc := 17, freq := 1, norm := 6, locs := [loc 6] },
      none, none ] := by
  decide +kernel

/-- the new term: `p0` of C07Example without exclusion (first hit: document 1, in chunk 0) -/
def pNew : PList := { p0 with except := none }

/-- WITHOUT `freqNormReader.reset()`: `currChunk` is 0 again (struct cleared) and the first hit of
    the new term lies in chunk 0, but `isNil()` is false because the reader still holds the OLD
    term's chunk — `loadChunk` is skipped and document 1 is reported with the old term's frequency 8
    and norm 1 (and no locations: the location reader WAS reset) instead of 2 / 7 / locations 1, 5 -/
theorem no_reset_stale_chunk :
    (ItObj.recycle noFnReset (some usedIter) src0 pNew true true true).run [.next] =
      [some { doc := 1, freq := 8, norm := 1, locs := [] }] ∧
    (It.create pNew true true true).run [.next] =
      [some { doc := 1, freq := 2, norm := 7, locs := [loc 1, loc 5] }] ∧
    (ItObj.recycle Flags.source (some usedIter) src0 pNew true true true).run [.next] =
      [some { doc := 1, freq := 2, norm := 7, locs := [loc 1, loc 5] }] := by
  decide +kernel

/-- WITHOUT `locReader.reset()` the hits are still right on this run (the first access loads the
    chunk into both readers because the freq/norm reader `isNil()`), but `BytesRead()` right after
    creation carries the old reader's count -/
example :
    (ItObj.recycle noLocReset (some usedIter) src0 p0 true true true).run ops0 =
      (It.create p0 true true true).run ops0 ∧
    (ItObj.recycle noLocReset (some usedIter) src0 p0 true true true).bytesRead = 15 ∧
    (ItObj.recycle Flags.source (some usedIter) src0 p0 true true true).bytesRead = 12 ∧
    (ItObj.recycle Flags.source none src0 p0 true true true).bytesRead = 12 := by
  decide +kernel

/-- `buf`, `nextLocs`, `nextSegmentLocs`: stale content is overwritten before it is read -/
example :
    (fillLocs ⟨2, [loc 90, loc 91, loc 92]⟩ [loc 1, loc 5, loc 6]) =
      (⟨2, [loc 1, loc 5, loc 92]⟩, [loc 1, loc 5, loc 6]) ∧
    bytes1Hit (some (List.replicate 20 255)) [2, 77] = (some ([2, 77] ++ List.replicate 18 255), [2, 77]) ∧
    bytes1Hit none [2, 77] = (some ([2, 77] ++ List.replicate 18 0), [2, 77]) := by
  decide +kernel

/-- a recycled list for a 1-hit term, then for a general term, on a list that last held a 1-hit -/
example :
    (PLObj.lookup Flags.source (some usedList) p1).view.count = 1 ∧
    (It.create (PLObj.lookup Flags.source (some usedList) p1).view true true false).run [.advance 3, .next] =
      [ some { doc := 5, freq := 1, norm := 77, locs := [] }, none ] ∧
    (PLObj.lookup Flags.source (some (PLObj.lookup Flags.source none p1)) p0).view.count = 4 := by
  decide +kernel

/-- synonyms list: stale codes for an absent term without `Clear()` -/
example :
    (SLObj.lookup Flags.source (some ⟨some [11, 12], [1], none⟩) none none).codes = [] ∧
    (SLObj.lookup { Flags.source with synonyms := false } (some ⟨some [11, 12], [1], none⟩) none none).codes = [11, 12] ∧
    (SLObj.lookup { Flags.source with synonyms := false } (some ⟨some [11, 12], [1], none⟩) (some [5]) none).codes = [5] := by
  decide +kernel

end C07ReuseExample

#print axioms C07_reuse_list
#print axioms C07_reuse_absent
#print axioms C07_reuse_iterator
#print axioms C07_reuse
#print axioms C07_reuse_spec
#print axioms C07_reuse_readers
#print axioms C07_reuse_synonyms
#print axioms C07_flags_extracted
#print axioms C07_preserved_ok
#print axioms C07_flags_entries
#print axioms C07_reuse_source
#print axioms C07ReuseExample.no_clear_stale_postings
#print axioms C07ReuseExample.no_reset_stale_chunk

end Zap
