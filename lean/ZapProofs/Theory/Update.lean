/-
  The interleaving models (Pool, Lock, Crit) keep their threads in a map `Nat → Thread` and a
  step replaces one entry (their `setThr`, an `if j = i then t else f j`).
-/
namespace Zap.Theory

theorem forall_update {α : Type} {P : Nat → α → Prop} (f : Nat → α) (i : Nat) (t : α)
    (ht : P i t) (hf : ∀ j, j ≠ i → P j (f j)) : ∀ j, P j (if j = i then t else f j) := by
  intro j
  split
  · next h => exact h ▸ ht
  · next h => exact hf j h

end Zap.Theory
