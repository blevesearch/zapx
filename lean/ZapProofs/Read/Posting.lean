/-
  The simulation behind C07 (postings iteration).  `Inv` relates the iterator state of
  `ZapModel.Posting` to a suffix `rem` of the entry list; `It.step` returns the first kept entry of
  `rem` at or after the target and re-establishes `Inv` on the suffix after that entry (`Sim`,
  `step_sim`, `run_sim`).  The reader positions are the subject of `ZapProofs.Read.Chunk`.
-/
import ZapModel.Spec
import ZapProofs.Base.Basic
import ZapProofs.Read.Chunk

namespace Zap
open Zap.Spec

/-- For the general representation (1-hit: `Sim.one`).  `rem` is the not-yet-visited suffix of the
    entry list; `keep` selects the entries that are in the actual bitmap. -/
structure Inv (p : PList) (f n l : Bool) (keep : Entry → Bool) (i : It) (rem : List Entry) :
    Prop where
  pl : i.pl = p
  incFN : i.incFN = (f || n || l)
  incLocs : i.incLocs = l
  notOne : i.isOneHit = false
  hasA : i.hasActual = true
  rep : p.rep.isNone = false
  asc : Asc p.entries
  cs : 0 < p.chunkSize
  suffix : ∃ pre, p.entries = pre ++ rem
  all : i.all = rem.map (·.doc)
  actual : i.actual = (rem.filter keep).map (·.doc)
  clean : i.clean = true → ∀ e, keep e = true
  ready : ∀ e ∈ rem, Ready p i rem (chunkOf p.chunkSize e.doc)

/-- The state between `nextDocNumAtOrAfter` and the reads of `nextAtOrAfter`:
    the readers sit exactly at entry `e`. -/
structure Mid (p : PList) (f n l : Bool) (keep : Entry → Bool) (i : It) (e : Entry)
    (rem : List Entry) : Prop where
  pl : i.pl = p
  incFN : i.incFN = (f || n || l)
  incLocs : i.incLocs = l
  notOne : i.isOneHit = false
  hasA : i.hasActual = true
  rep : p.rep.isNone = false
  asc : Asc p.entries
  cs : 0 < p.chunkSize
  suffix : ∃ pre, p.entries = pre ++ e :: rem
  all : i.all = rem.map (·.doc)
  actual : i.actual = (rem.filter keep).map (·.doc)
  clean : i.clean = true → ∀ e, keep e = true
  pos : i.incFN = true → Pos p i (e :: rem) (chunkOf p.chunkSize e.doc)

theorem nextDoc_of_live_nil {i : It} (h : i.live = []) (t : Nat) : i.nextDoc t = (i, none) := by
  unfold It.live at h
  unfold It.nextDoc
  split at h
  · next h1 =>
    rw [if_pos h1]
    cases ho : i.oneHit with
    | none => rfl
    | some d => rw [ho] at h; cases h
  · next h1 =>
    rw [if_neg h1, if_pos (Or.inr (by rw [h]; rfl))]

theorem live_of_actual_nil {i : It} (h1 : i.isOneHit = false) (h2 : i.actual = []) :
    i.live = [] := by
  unfold It.live
  rw [h1, h2]
  rfl

theorem mid_of_frame {p : PList} {f n l : Bool} {keep : Entry → Bool} {i i' : It}
    {rem rem' : List Entry} {e : Entry} (h : Inv p f n l keep i rem) (A B : List Nat)
    (hfr : Frame { i with all := A, actual := B } i')
    (hA : A = rem'.map (·.doc)) (hB : B = (rem'.filter keep).map (·.doc))
    (hsuf : ∃ pre, p.entries = pre ++ e :: rem')
    (hpos : i'.incFN = true → Pos p i' (e :: rem') (chunkOf p.chunkSize e.doc)) :
    Mid p f n l keep i' e rem' :=
  { pl := hfr.pl.trans h.pl
    incFN := hfr.incFN.trans h.incFN
    incLocs := hfr.incLocs.trans h.incLocs
    notOne := hfr.isOneHit.trans h.notOne
    hasA := hfr.hasActual.trans h.hasA
    rep := h.rep
    asc := h.asc
    cs := h.cs
    suffix := hsuf
    all := hfr.all.trans hA
    actual := hfr.actual.trans hB
    clean := fun hc => h.clean (hfr.clean ▸ hc)
    pos := hpos }

theorem nextDoc_some {p : PList} {f n l : Bool} {keep : Entry → Bool} {i : It}
    {rem : List Entry} (h : Inv p f n l keep i rem) (t : Nat) {e : Entry} {lv' : List Entry}
    (hd : (rem.filter keep).dropWhile (fun x => decide (x.doc < t)) = e :: lv') :
    ∃ rem', lv' = rem'.filter keep ∧
      ∃ i', i.nextDoc t = (i', some e.doc) ∧ Mid p f n l keep i' e rem' := by
  have hact : i.actual.dropWhile (fun d => decide (d < t)) = e.doc :: lv'.map (·.doc) := by
    rw [h.actual, List.dropWhile_map]
    exact congrArg (List.map (·.doc)) hd
  have hne : i.actual ≠ [] := by
    intro h0; rw [h0] at hact; cases hact
  obtain ⟨pre, hpre⟩ := h.suffix
  -- `e` in the unfiltered suffix: `rem = sk ++ e :: rem'`, every kept entry of `sk` before `t`
  obtain ⟨sk, rem', hsp, hlv, hte, hsk⟩ := List.filter_dropWhile_eq_cons hd
  have hte : t ≤ e.doc := by simpa using hte
  have hsuf : ∃ pre', p.entries = pre' ++ e :: rem' :=
    ⟨pre ++ sk, by rw [hpre, hsp, List.append_assoc]⟩
  have hasc : Asc (sk ++ e :: rem') := hsp ▸ asc_suffix (hpre ▸ h.asc)
  have hcsz : i.pl.chunkSize = p.chunkSize := by rw [h.pl]
  have hr0 : Ready p i (sk ++ e :: rem') (chunkOf p.chunkSize e.doc) :=
    hsp ▸ h.ready e (by rw [hsp]; simp)
  refine ⟨rem', hlv, ?_⟩
  unfold It.nextDoc
  rw [if_neg (by simp [h.notOne]), if_neg (by simp [h.hasA, hne]), if_neg (by simp [h.pl, h.rep])]
  cases hL : sk ++ e :: rem' with
  | nil => simp at hL
  | cons cur L =>
    by_cases hc : i.clean = true
    · rw [if_pos hc]
      have hkeep : ∀ l : List Entry, l.filter keep = l :=
        fun l => List.filter_eq_self.2 (fun x _ => h.clean hc x)
      rw [hkeep] at hlv
      subst hlv
      by_cases hf : i.incFN = true
      · -- readers in use: `cleanLoop` counts the skipped entries of the chunk of `e`,
        -- `iterN` skips them
        rw [if_neg (by simp [hf]), h.actual, hkeep, hsp, hL]
        simp only [List.map_cons]
        have hcl : cleanLoop p.chunkSize t cur.doc (chunkOf p.chunkSize cur.doc) 0 (L.map (·.doc))
            = (e.doc, chunkOf p.chunkSize e.doc,
                (chunkEntries sk p.chunkSize (chunkOf p.chunkSize e.doc)).length, lv'.map (·.doc)) :=
          cleanLoop_skips p.chunkSize t e lv' hte sk cur L [] hL.symm
            (hL ▸ hasc) (fun x hx => by simpa using hsk x hx (h.clean hc x))
        rw [hcsz, hcl]
        dsimp only
        rw [if_neg (Nat.not_lt.2 hte)]
        obtain ⟨hr2, hfr2⟩ := iterN_skip (chunkOf p.chunkSize e.doc) sk _ (e :: lv')
          (ready_setCursors (lv'.map (·.doc)) (lv'.map (·.doc)) i.clean i.hasActual hr0)
        refine ⟨_, rfl, mid_of_frame h _ _ (hfr2.trans (ensureChunk_frame _ _)) rfl
          (by rw [hkeep]) hsuf fun hf' => hr2 ?_⟩
        rwa [(ensureChunk_frame _ _).incFN] at hf'
      · rw [if_pos (by simpa using hf), hact]
        exact ⟨_, rfl, mid_of_frame h _ _ (Frame.refl _) rfl (by rw [hkeep]) hsuf
          (fun hf' => absurd hf' hf)⟩
    · -- filtered path: `catchUp` steps `all` forward to `e`, skipping as it goes
      rw [if_neg hc]
      have hall : i.all = cur.doc :: L.map (·.doc) := by rw [h.all, hsp, hL]; rfl
      dsimp only
      rw [hact, hall]
      dsimp only
      rw [hcsz]
      obtain ⟨i', hcu, hfr, hr'⟩ := catchUp_spec h.cs e rem' sk cur L _ hL.symm
        (fun x hx => (List.pairwise_append.1 hasc).2.2 x hx e List.mem_cons_self)
        (ready_setCursors (lv'.map (·.doc)) (cur.doc :: L.map (·.doc)) i.clean i.hasActual hr0)
      rw [hcu]
      dsimp only
      refine ⟨_, rfl, ?_⟩
      by_cases hf : i'.incFN = true
      · rw [if_pos hf]
        exact mid_of_frame h _ _ (hfr.trans (ensureChunk_frame _ _)) rfl (by rw [hlv]) hsuf
          (fun _ => hr' hf)
      · rw [if_neg hf]
        exact mid_of_frame h _ _ hfr rfl (by rw [hlv]) hsuf (fun hf' => absurd hf' hf)

theorem nextDoc_none {p : PList} {f n l : Bool} {keep : Entry → Bool} {i : It}
    {rem : List Entry} (h : Inv p f n l keep i rem) (t : Nat)
    (hd : (rem.filter keep).dropWhile (fun x => decide (x.doc < t)) = []) :
    ∃ i', i.nextDoc t = (i', none) ∧ i'.live = [] := by
  have hact : i.actual.dropWhile (fun d => decide (d < t)) = [] := by
    rw [h.actual, List.dropWhile_map]
    exact congrArg (List.map (·.doc)) hd
  by_cases hne : i.actual = []
  · have hlive := live_of_actual_nil h.notOne hne
    exact ⟨i, nextDoc_of_live_nil hlive t, hlive⟩
  unfold It.nextDoc
  rw [if_neg (by simp [h.notOne]), if_neg (by simp [h.hasA, hne]), if_neg (by simp [h.pl, h.rep])]
  by_cases hc : i.clean = true
  · rw [if_pos hc]
    by_cases hf : i.incFN = true
    · rw [if_neg (by simp [hf])]
      cases hA : i.actual with
      | nil => exact absurd hA hne
      | cons n0 rest0 =>
        rw [hA] at hact
        have hlt := List.dropWhile_eq_nil.1 hact
        obtain ⟨n', c', s', hcl, hn'⟩ := cleanLoop_exhaust i.pl.chunkSize t rest0 n0
          (chunkOf i.pl.chunkSize n0) 0 (by simpa using hlt n0 List.mem_cons_self)
          (fun x hx => by simpa using hlt x (List.mem_cons_of_mem _ hx))
        dsimp only
        rw [hcl]
        dsimp only
        rw [if_pos hn']
        exact ⟨_, rfl, live_of_actual_nil h.notOne rfl⟩
    · rw [if_pos (by simpa using hf), hact]
      exact ⟨_, rfl, live_of_actual_nil h.notOne rfl⟩
  · rw [if_neg hc]
    dsimp only
    rw [hact]
    exact ⟨_, rfl, live_of_actual_nil h.notOne rfl⟩

/-- The part of `nextAtOrAfter` after `nextDocNumAtOrAfter` succeeded. -/
def It.readHit (i : It) (d : Nat) : It × Option Hit :=
  if !i.incFN then (i, some { doc := d, freq := 0, norm := 0, locs := [] })
  else if i.isOneHit then
    let nb := match i.pl.rep with | some (.oneHit _ nb) => nb | _ => 0
    (i, some { doc := d, freq := 1, norm := nb, locs := [] })
  else
    match i.fn with
    | [] => (i, some { doc := d, freq := 0, norm := 0, locs := [] })
    | e :: rest =>
      let i := { i with fn := rest }
      if i.incLocs ∧ !e.locs.isEmpty then
        match i.loc with
        | [] => (i, some { doc := d, freq := e.freq, norm := e.norm, locs := [] })
        | le :: lrest =>
          ({ i with loc := lrest }, some { doc := d, freq := e.freq, norm := e.norm,
                                           locs := le.locs.map (resolveMLoc i.pl.names) })
      else (i, some { doc := d, freq := e.freq, norm := e.norm, locs := [] })

theorem step_eq (i : It) (op : Op) :
    i.step op = match i.nextDoc (target op) with
      | (i', none) => (i', none)
      | (i', some d) => i'.readHit d := by
  cases op <;> rfl

theorem inv_of_mid_pop {p : PList} {f n l : Bool} {keep : Entry → Bool} {i j : It} {e : Entry}
    {rem : List Entry} (h : Mid p f n l keep i e rem) (hfr : Frame i j)
    (hpos : j.incFN = true → Pos p j rem (chunkOf p.chunkSize e.doc)) :
    Inv p f n l keep j rem := by
  obtain ⟨pre, hpre⟩ := h.suffix
  have hpre' : p.entries = (pre ++ [e]) ++ rem := by rw [hpre]; simp
  exact
  { pl := hfr.pl.trans h.pl
    incFN := hfr.incFN.trans h.incFN
    incLocs := hfr.incLocs.trans h.incLocs
    notOne := hfr.isOneHit.trans h.notOne
    hasA := hfr.hasActual.trans h.hasA
    rep := h.rep
    asc := h.asc
    cs := h.cs
    suffix := ⟨pre ++ [e], hpre'⟩
    all := hfr.all.trans h.all
    actual := hfr.actual.trans h.actual
    clean := fun hc => h.clean (hfr.clean ▸ hc)
    ready := by
      intro e2 he2
      by_cases hc : chunkOf p.chunkSize e.doc = chunkOf p.chunkSize e2.doc
      · apply ready_of_pos
        intro hf
        exact hc ▸ hpos hf
      · intro hf
        have hcur : j.currChunk = chunkOf p.chunkSize e.doc := (hpos hf).cur
        exact load_ready (hfr.pl.trans h.pl) hpre' (asc_chunk_ne (hpre ▸ h.asc) he2 hc)
          ⟨e2, he2, rfl⟩ (Or.inl (hcur ▸ hc)) hf }

theorem readHit_mid {p : PList} {f n l : Bool} {keep : Entry → Bool} {i : It} {e : Entry}
    {rem : List Entry} (h : Mid p f n l keep i e rem) :
    ∃ j, i.readHit e.doc = (j, some (mkHit p f n l e)) ∧ Inv p f n l keep j rem := by
  by_cases hf : i.incFN = true
  · have hpos := h.pos hf
    have hfn := hpos.fn
    rw [chunkEntries_cons, if_pos rfl] at hfn
    have hfl : (f || n || l) = true := h.incFN ▸ hf
    refine ⟨i.pop, ?_, inv_of_mid_pop h (pop_frame i) (fun _ => pos_pop hpos rfl)⟩
    unfold It.readHit It.pop mkHit
    rw [if_neg (by simp [hf]), if_neg (by simp [h.notOne]), if_pos hfl, hfn]
    dsimp only
    by_cases hl : i.incLocs = true ∧ (!e.locs.isEmpty) = true
    · have hloc := hpos.loc hl.1
      rw [chunkEntries_cons, if_pos rfl, List.filter_cons_of_pos (by simpa using hl.2)] at hloc
      rw [if_pos hl, if_pos hl, hloc]
      dsimp only
      rw [h.pl, if_pos (h.incLocs ▸ hl.1)]
      rfl
    · rw [if_neg hl, if_neg hl]
      by_cases hl' : l = true
      · have : e.locs = [] := by
          have h1 : i.incLocs = true := h.incLocs ▸ hl'
          have h2 : ¬ (!e.locs.isEmpty) = true := fun h2 => hl ⟨h1, h2⟩
          simpa using h2
        rw [if_pos hl', this]
        rfl
      · rw [if_neg hl']
  · have hfl : ¬ (f || n || l) = true := h.incFN ▸ hf
    refine ⟨i, ?_, inv_of_mid_pop h (Frame.refl i) (fun hf' => absurd hf' hf)⟩
    unfold It.readHit mkHit
    rw [if_pos (by simpa using hf), if_neg hfl]

/-- `Sim p f n l i lv`: iterator state `i` will still return exactly the hits `lv`. -/
inductive Sim (p : PList) (f n l : Bool) : It → List Entry → Prop
  | done {i : It} : i.live = [] → Sim p f n l i []
  | gen {i : It} {keep : Entry → Bool} {rem : List Entry} :
      Inv p f n l keep i rem → Sim p f n l i (rem.filter keep)
  | one {i : It} {d nb : Nat} : i.isOneHit = true → i.pl = p → p.rep = some (.oneHit d nb) →
      i.incFN = (f || n || l) → i.oneHit = some d →
      Sim p f n l i [{ doc := d, freq := 1, norm := nb, locs := [] }]

/-- The right-hand sides are one step of `Spec.run`. -/
theorem step_sim {p : PList} {f n l : Bool} {i : It} {lv : List Entry}
    (h : Sim p f n l i lv) (op : Op) :
    ∃ i', i.step op =
        (i', (lv.dropWhile (fun e => decide (e.doc < target op))).head?.map (mkHit p f n l)) ∧
      Sim p f n l i' (lv.dropWhile (fun e => decide (e.doc < target op))).tail := by
  rw [step_eq]
  cases h with
  | done hlive =>
    rw [nextDoc_of_live_nil hlive]
    exact ⟨i, rfl, Sim.done hlive⟩
  | @gen keep rem hinv =>
    cases hd : (rem.filter keep).dropWhile (fun e => decide (e.doc < target op)) with
    | nil =>
      obtain ⟨i', h1, h2⟩ := nextDoc_none hinv (target op) hd
      rw [h1]
      exact ⟨i', rfl, Sim.done h2⟩
    | cons e lv' =>
      obtain ⟨rem', rfl, i', h2, h3⟩ := nextDoc_some hinv (target op) hd
      obtain ⟨j, h4, h5⟩ := readHit_mid h3
      rw [h2]
      dsimp only
      rw [h4]
      exact ⟨j, rfl, Sim.gen h5⟩
  | @one d nb h1 h2 h3 h4 h5 =>
    -- the hit is consumed whether or not it is returned
    have hdone : Sim p f n l { i with oneHit := none } [] :=
      Sim.done (by unfold It.live; rw [if_pos h1]; rfl)
    unfold It.nextDoc
    rw [if_pos h1, h5]
    dsimp only
    by_cases hlt : d < target op
    · rw [if_pos hlt, List.dropWhile_cons_of_pos (by simpa using hlt)]
      exact ⟨_, rfl, hdone⟩
    · rw [if_neg hlt, List.dropWhile_cons_of_neg (by simpa using hlt)]
      refine ⟨_, ?_, hdone⟩
      show _ = (_, some (mkHit p f n l { doc := d, freq := 1, norm := nb, locs := [] }))
      unfold It.readHit mkHit
      dsimp only
      by_cases hf : i.incFN = true
      · rw [if_neg (by simp [hf]), if_pos h1, h2, h3, if_pos (h4 ▸ hf)]
        cases l <;> rfl
      · rw [if_pos (by simpa using hf), if_neg (h4 ▸ hf)]

theorem run_sim {p : PList} {f n l : Bool} (ops : List Op) :
    ∀ (i : It) (lv : List Entry), Sim p f n l i lv →
      i.run ops = Spec.run (mkHit p f n l) lv ops := by
  induction ops with
  | nil => intro i lv _; cases lv <;> rfl
  | cons op ops ih =>
    intro i lv h
    obtain ⟨i', h1, h2⟩ := step_sim h op
    unfold It.run Spec.run
    rw [h1]
    dsimp only
    rw [ih i' _ h2]
    cases lv.dropWhile (fun e => decide (e.doc < target op)) <;> rfl

theorem entries_general {p : PList} {es : List Entry} (hrep : p.rep = some (.general es)) :
    p.entries = es := by
  unfold PList.entries; rw [hrep]

theorem create_general {p : PList} {es : List Entry} (hrep : p.rep = some (.general es))
    (f n l : Bool) :
    It.create p f n l =
      { pl := p, incFN := f || n || l, incLocs := l, oneHit := none, isOneHit := false,
        all := es.map (·.doc),
        actual := (es.map (·.doc)).filter (fun d => !excluded p.except d),
        clean := p.except.isNone, hasActual := true,
        currChunk := 0, loaded := false, fn := [], loc := [] } := by
  unfold It.create; rw [hrep]

theorem create_oneHit {p : PList} {d nb : Nat} (hrep : p.rep = some (.oneHit d nb))
    (f n l : Bool) :
    It.create p f n l =
      { pl := p, incFN := f || n || l, incLocs := l, isOneHit := true,
        oneHit := if excluded p.except d then none else some d,
        all := [], actual := [], clean := false, hasActual := false,
        currChunk := 0, loaded := false, fn := [], loc := [] } := by
  unfold It.create; rw [hrep]

theorem inv_create {p : PList} {es : List Entry} (hrep : p.rep = some (.general es))
    (hasc : Asc es) (hcs : 0 < p.chunkSize) (f n l : Bool) :
    Inv p f n l (fun e => !excluded p.except e.doc) (It.create p f n l) es := by
  rw [create_general hrep]
  exact
  { pl := rfl, incFN := rfl, incLocs := rfl, notOne := rfl, hasA := rfl
    rep := by rw [hrep]; rfl
    asc := by rw [entries_general hrep]; exact hasc
    cs := hcs
    suffix := ⟨[], by rw [entries_general hrep]; rfl⟩
    all := rfl
    actual := List.filter_map
    clean := fun hc e => by rw [Option.isNone_iff_eq_none.mp hc]; rfl
    ready := fun e he => load_ready (P := []) rfl (by rw [entries_general hrep]; rfl) (by simp)
      ⟨e, he, rfl⟩ (Or.inr rfl) }

theorem sim_create (p : PList) (hasc : Asc p.entries)
    (hcs : ∀ es, p.rep = some (.general es) → 0 < p.chunkSize) (f n l : Bool) :
    Sim p f n l (It.create p f n l) (Spec.live p) := by
  unfold Spec.live
  cases hrep : p.rep with
  | none => exact Sim.done (by unfold It.create; rw [hrep]; rfl)
  | some r =>
    cases r with
    | general es =>
      exact Sim.gen (inv_create hrep (entries_general hrep ▸ hasc) (hcs es hrep) f n l)
    | oneHit d nb =>
      rw [create_oneHit hrep]
      dsimp only [PostRep.entries]
      by_cases hex : excluded p.except d = true
      · rw [List.filter_cons_of_neg (by simp [hex])]
        exact Sim.done (by unfold It.live; dsimp only; rw [if_pos rfl, if_pos hex]; rfl)
      · rw [List.filter_cons_of_pos (by simpa using hex)]
        exact Sim.one (d := d) (nb := nb) rfl rfl hrep rfl (if_neg hex)

theorem filter_contains_of_sublist {L A : List Nat} (hp : L.Pairwise (· < ·)) (h : A.Sublist L) :
    L.filter (fun d => A.contains d) = A := by
  refine List.Pairwise.eq_of_mem_iff (fun _ _ h h' => Nat.lt_asymm h h')
    (hp.sublist List.filter_sublist) (hp.sublist h) fun x => ?_
  rw [List.mem_filter, List.contains_iff_mem]
  exact ⟨fun hx => hx.2, fun hx => ⟨h.subset hx, hx⟩⟩

theorem inv_replaceActual {p : PList} {f n l : Bool} {keep : Entry → Bool} {i : It}
    {rem : List Entry} (h : Inv p f n l keep i rem) (A : List Nat) (hA : A.Sublist i.actual) :
    Inv p f n l (fun e => A.contains e.doc && keep e) (i.replaceActual A) rem := by
  obtain ⟨pre, hpre⟩ := h.suffix
  have hpw : i.actual.Pairwise (· < ·) := by
    rw [h.actual, List.pairwise_map]
    exact List.Pairwise.sublist List.filter_sublist (asc_suffix (hpre ▸ h.asc))
  exact
  { pl := h.pl, incFN := h.incFN, incLocs := h.incLocs, notOne := h.notOne, hasA := rfl
    rep := h.rep, asc := h.asc, cs := h.cs, suffix := h.suffix, all := h.all
    actual := by
      show A = _
      refine (filter_contains_of_sublist hpw hA).symm.trans ?_
      rw [h.actual, List.filter_map, List.filter_filter]
      rfl
    clean := fun hc => by cases hc
    ready := fun e he => ready_setCursors A i.all false true (h.ready e he) }

theorem sim_replace {p : PList} {es : List Entry} (hrep : p.rep = some (.general es))
    (hasc : Asc es) (hcs : 0 < p.chunkSize) (f n l : Bool) (A : List Nat)
    (hA : A.Sublist ((Spec.live p).map (·.doc))) :
    Sim p f n l ((It.create p f n l).replaceActual A)
      ((Spec.live p).filter (fun e => A.contains e.doc)) := by
  have hl : Spec.live p = es.filter (fun e => !excluded p.except e.doc) := by
    unfold Spec.live; rw [hrep]; rfl
  have hinv := inv_create hrep hasc hcs f n l
  rw [hl, ← hinv.actual] at hA
  rw [hl, List.filter_filter]
  exact Sim.gen (inv_replaceActual hinv A hA)

/-- For `C07_count`: `PList.count` subtracts the excluded entries. -/
theorem length_sub_filter {α : Type} (q : α → Bool) (l : List α) :
    l.length - (l.filter q).length = (l.filter (fun x => !q x)).length := by
  have := (List.filter_append_perm q l).length_eq
  rw [List.length_append] at this
  rw [← this, Nat.add_sub_cancel_left]

/-- For `Spec.readAll` (C01), which calls `Next` `numDocs + 1` times. -/
theorem run_next (mk : Entry → Hit) : ∀ (k : Nat) (lv : List Entry),
    Spec.run mk lv (List.replicate k Op.next) =
      (lv.take k).map (fun e => some (mk e)) ++ List.replicate (k - lv.length) none
  | 0, lv => by simp [Spec.run]
  | k + 1, [] => by
    have ih := run_next mk k []
    simp only [List.replicate_succ, Spec.run, List.dropWhile_nil, ih]
    simp [List.replicate_succ]
  | k + 1, e :: rest => by
    have ih := run_next mk k rest
    have hd : (e :: rest).dropWhile (fun e => decide (e.doc < Spec.target Op.next)) = e :: rest := by
      simp [Spec.target, List.dropWhile]
    simp only [List.replicate_succ, Spec.run, hd, ih]
    simp

theorem run_next_filterMap (mk : Entry → Hit) (k : Nat) (lv : List Entry) (hk : lv.length ≤ k) :
    (Spec.run mk lv (List.replicate k Op.next)).filterMap id = lv.map mk := by
  rw [run_next, List.take_of_length_le hk, List.filterMap_append, List.filterMap_map,
    List.filterMap_replicate_of_none rfl, List.append_nil]
  exact congrFun List.filterMap_eq_map lv

end Zap
