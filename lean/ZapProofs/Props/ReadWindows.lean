/-
  ZapProofs.Props.ReadWindows: a regenerated-fact obligation of the layout properties (C04, C08, C09)
  and of the doc-value readers of an opened file (C03: `getSectionDvOffsets`, `loadFieldDocValueReader`,
  `loadDvChunk` are among the listed calls; a field whose block straddles offset 2^14 or 2^21 needs the
  full window).

  Every varint of the v16 layout may be up to `binary.MaxVarintLen64` bytes long.  The readers decode
  them with `binary.Uvarint(mem[lo:hi])`; a window `[lo, hi)` that is shorter than that (a smaller
  constant, or an end to which the running offset was not added) makes `Uvarint` return `(0, 0)` for
  values that need the missing bytes - which only happens in files of several megabytes or with
  postings bitmaps of more than 16 KiB (tens of thousands of documents), beyond what a script of the
  correspondence check can afford.  `tools/gofacts` therefore lists every such call
  (`Gen.Facts.uvarintWindows`); the obligation: each window is `lo .. lo+binary.MaxVarintLen64`
  verbatim, with the exceptions below, which are listed with their exact text and multiplicity.
-/
import ZapModel.Gen.Facts

namespace Zap.ReadWindows

/-- the well-formed shape: `hi` is `lo` followed by `+binary.MaxVarintLen64` -/
def standard (w : String × String × String) : Bool :=
  w.2.2 == w.2.1 ++ "+binary.MaxVarintLen64"

/-- The windows that are not of the standard shape, each justified:
    * `PostingsList.read`, first header varint: the running offset `n` is still 0 there, so
      `postingsOffset+binary.MaxVarintLen64` is the standard end;
    * `SegmentBase.loadFields` (pre-v16 files only) and `loadFieldsNew`: the window ends at the end of
      the fields index / at an explicitly clamped `seek` (the buffer may be shorter than 10 bytes
      there, see the comment in the source). -/
def exceptions : List (String × String × String) := [
  ("PostingsList.read", "postingsOffset+n", "postingsOffset+binary.MaxVarintLen64"),
  ("SegmentBase.loadFields", "addr", "fieldsIndexEnd"),
  ("SegmentBase.loadFields", "addr+n", "fieldsIndexEnd"),
  ("SegmentBase.loadFieldsNew", "pos", "seek")
]

/-- Every varint read window is a full-width one, except exactly the listed ones. -/
theorem windows_full_width :
    (Gen.Facts.uvarintWindows.filter (fun w => !standard w)) = exceptions := by decide +kernel

/-- nothing was unrecognised by the extractor, and the list is not empty (a vacuous pass is impossible) -/
theorem windows_recognised :
    Gen.Facts.uvarintWindows.all (fun w => !(w.2.1.startsWith "UNRECOGNISED")) = true ∧
    Gen.Facts.uvarintWindows.length ≥ 40 := by decide +kernel

end Zap.ReadWindows

#print axioms Zap.ReadWindows.windows_full_width
#print axioms Zap.ReadWindows.windows_recognised
