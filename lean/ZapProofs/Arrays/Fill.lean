/-
  ZapProofs.Arrays.Fill: the fill pass as a fold over the flat list of append events.
  The arithmetic heart of C01-arrays: for every key (field id, term)

      #appends        ≤ #visits counted           (at most one per document and merged field,
                                                    but one visit per field *instance*)
      #locations appended ≤ #locations counted    (merged locations are the concatenation)

  and, given that, the fill pass keeps every window exact (`fill_regions_exact`).
-/
import ZapProofs.Arrays.Arena
import ZapProofs.Arrays.Count
import ZapProofs.Build.Events

namespace Zap.Arr

theorem fillDoc_eq (vectors : Bool) (tbl : List Name) (c : Counts) (S : Fill) (doc : Nat) (d : DocIn) :
    fillDoc vectors tbl c S doc d = (docEvents vectors tbl doc d).foldl (fillEv c) S := by
  unfold fillDoc docEvents
  rw [List.foldl_flatMap]
  simp only [List.foldl_map]

theorem fillPass_eq (vectors : Bool) (tbl : List Name) (c : Counts) (S : Fill) (b : Batch) :
    fillPass vectors tbl c S b = (events vectors tbl b).foldl (fillEv c) S := by
  unfold fillPass events
  rw [List.foldl_flatMap]
  simp only [fillDoc_eq]

theorem sum_filter_filter_le {α : Type} (p q : α → Bool) (g : α → Nat) (l : List α) :
    (((l.filter p).filter q).map g).sum ≤ ((l.filter q).map g).sum :=
  List.sum_le_of_sublist ((List.filter_sublist.filter q).map g)

theorem le_sum_of_mem {α : Type} (g : α → Nat) (l : List α) (x : α) (h : x ∈ l) : g x ≤ (l.map g).sum :=
  Nat.add_zero (g x) ▸ List.sum_le_of_sublist (List.singleton_sublist.2 (List.mem_map_of_mem h))

def cT (t : Bytes) (f : FieldIn) : Nat := (f.toks.filter (fun tok => tok.term = t)).length
def wT (t : Bytes) (f : FieldIn) : Nat := ((f.toks.filter (fun tok => tok.term = t)).map (fun tok => tok.locs.length)).sum

theorem fieldVisits_key (tbl : List Name) (n : Name) (hn : n ∈ tbl) (t : Bytes) (f : FieldIn) :
    cntV (fieldIdOf tbl n, t) (fieldVisits tbl f) = (if f.name = n then cT t f else 0) ∧
    wV (fieldIdOf tbl n, t) (fieldVisits tbl f) = (if f.name = n then wT t f else 0) := by
  unfold cntV wV fieldVisits
  rw [filter_map_key hn t f.name (tokVisit (fieldIdOf tbl f.name)) Visit.key Tok.term (fun _ => rfl)]
  by_cases e : f.name = n <;> simp [e, cT, wT, List.map_map, Function.comp_def, tokVisit]

theorem fieldsVisits_key (tbl : List Name) (n : Name) (hn : n ∈ tbl) (t : Bytes) (fs : List FieldIn) :
    cntV (fieldIdOf tbl n, t) (fs.flatMap (fieldVisits tbl)) = ((fs.filter (fun f => f.name = n)).map (cT t)).sum ∧
    wV (fieldIdOf tbl n, t) (fs.flatMap (fieldVisits tbl)) = ((fs.filter (fun f => f.name = n)).map (wT t)).sum := by
  induction fs with
  | nil => exact ⟨rfl, rfl⟩
  | cons f fs ih =>
    obtain ⟨h1, h2⟩ := fieldVisits_key tbl n hn t f
    rw [List.flatMap_cons, cntV_append, wV_append, ih.1, ih.2, h1, h2, List.filter_cons]
    by_cases e : f.name = n <;> simp [e]

theorem hasTerm_le (t : Bytes) (is : List FieldIn) :
    (if Spec.hasTerm t is = true then 1 else 0) ≤ (is.map (cT t)).sum := by
  induction is with
  | nil => exact Nat.le_refl 0
  | cons f is ih =>
    rw [Spec.hasTerm_cons, List.map_cons, List.sum_cons]
    by_cases h1 : f.toks.any (fun tok => decide (tok.term = t)) = true
    · have : 0 < cT t f := List.length_filter_pos_iff.2 (List.any_eq_true.1 h1)
      rw [h1, Bool.true_or, if_pos rfl]
      exact Nat.le_trans this (Nat.le_add_right _ _)
    · rw [Bool.not_eq_true] at h1
      rw [h1, Bool.false_or]
      exact Nat.le_trans ih (Nat.le_add_left _ _)

theorem find_le_wT (t : Bytes) (f : FieldIn) (tok : Tok)
    (h : f.toks.find? (fun tok => tok.term = t) = some tok) : tok.locs.length ≤ wT t f := by
  have h2 := List.find?_some h
  exact le_sum_of_mem (fun tok : Tok => tok.locs.length) _ tok
    (List.mem_filter.2 ⟨List.mem_of_find?_eq_some h, h2⟩)

theorem laterLocs_le (n : Name) (t : Bytes) (is : List FieldIn) :
    (laterLocs n t is).length ≤ (is.map (wT t)).sum := by
  induction is with
  | nil => exact Nat.le_refl 0
  | cons f is ih =>
    rw [laterLocs_cons, List.length_append, List.map_cons, List.sum_cons]
    cases hfind : f.toks.find? (fun tok => decide (tok.term = t)) with
    | none => exact Nat.add_le_add (Nat.zero_le _) ih
    | some tok =>
      have hlen : (renameLocs n tok.locs).length = tok.locs.length := List.length_map _
      exact Nat.add_le_add (hlen ▸ find_le_wT t f tok hfind) ih

theorem rawLocs_le (n : Name) (t : Bytes) (is : List FieldIn) :
    (rawLocs n t is).length ≤ (is.map (wT t)).sum := by
  cases is with
  | nil => exact Nat.le_refl 0
  | cons f is =>
    have h2 := laterLocs_le n t is
    rw [rawLocs, List.length_append, List.map_cons, List.sum_cons]
    cases hfind : f.toks.find? (fun tok => decide (tok.term = t)) with
    | none => exact Nat.add_le_add (Nat.zero_le _) h2
    | some tok => exact Nat.add_le_add (find_le_wT t f tok hfind) h2

theorem doc_bounds_named (vectors : Bool) (tbl : List Name) (n : Name) (hn : n ∈ tbl) (t : Bytes)
    (doc : Nat) (d : DocIn) (hd : DocTermsDistinct d) :
    cntE (fieldIdOf tbl n, t) (docEvents vectors tbl doc d) ≤ cntV (fieldIdOf tbl n, t) (docVisits tbl d) ∧
    locE (fieldIdOf tbl n, t) (docEvents vectors tbl doc d) ≤ wV (fieldIdOf tbl n, t) (docVisits tbl d) := by
  have hk := docEvents_key vectors tbl n hn t doc d hd
  obtain ⟨v1, v2⟩ := fieldsVisits_key tbl n hn t d.visitOrder
  have hc : cntE (fieldIdOf tbl n, t) (docEvents vectors tbl doc d) = (entryOf vectors tbl n t doc d).toList.length := by
    rw [← hk, List.length_map]; rfl
  have hl : locE (fieldIdOf tbl n, t) (docEvents vectors tbl doc d) =
      ((entryOf vectors tbl n t doc d).toList.flatMap (·.locs)).length := by
    rw [← hk, List.flatMap_map]; rfl
  unfold docVisits
  rw [hc, hl, v1, v2]
  -- the count pass also visits the instances the fill pass skips
  have b1 := Nat.le_trans (hasTerm_le t (Spec.insts vectors d n))
    (sum_filter_filter_le (invProcessed vectors) (fun f => decide (f.name = n)) (cT t) d.visitOrder)
  have b2 := Nat.le_trans (rawLocs_le n t (Spec.insts vectors d n))
    (sum_filter_filter_le (invProcessed vectors) (fun f => decide (f.name = n)) (wT t) d.visitOrder)
  unfold entryOf termObs
  by_cases hh : Spec.hasTerm t (Spec.insts vectors d n) = true
  · rw [if_pos hh] at b1 ⊢
    refine ⟨b1, ?_⟩
    simpa [mkEntry] using b2
  · rw [if_neg hh]
    exact ⟨Nat.zero_le _, Nat.zero_le _⟩

theorem doc_bounds (vectors : Bool) (tbl : List Name) (k : Key) (doc : Nat) (d : DocIn)
    (hd : DocTermsDistinct d) (hnames : ∀ f ∈ d.visitOrder, f.name ∈ tbl) :
    cntE k (docEvents vectors tbl doc d) ≤ cntV k (docVisits tbl d) ∧
    locE k (docEvents vectors tbl doc d) ≤ wV k (docVisits tbl d) := by
  by_cases hex : ∃ n ∈ tbl, k.1 = fieldIdOf tbl n
  · obtain ⟨n, hn, e⟩ := hex
    obtain ⟨fid, t⟩ := k
    simp only at e
    subst e
    exact doc_bounds_named vectors tbl n hn t doc d hd
  · -- no event has such a key
    have : (docEvents vectors tbl doc d).filter (fun e => decide (e.key = k)) = [] := by
      refine List.filter_eq_nil_iff.2 fun e he => ?_
      simp only [decide_eq_true_eq]
      intro ek
      obtain ⟨f, hf, e2⟩ := docEvents_fid vectors tbl doc d e he
      exact hex ⟨f.name, hnames f (List.mem_filter.1 hf).1, by rw [← ek]; exact e2⟩
    simp [cntE, locE, this]

theorem visits_cons (tbl : List Name) (d : DocIn) (b : Batch) :
    visits tbl (d :: b) = docVisits tbl d ++ visits tbl b := by
  simp [visits]

/-- COUNTED ≥ APPENDED (the `appended ≤ counted` of ZapModel.BuildArrays), for every postings list of
    the batch -/
theorem batch_bounds (vectors : Bool) (b : Batch) (hb : ∀ d ∈ b, DocTermsDistinct d) (k : Key) :
    cntE k (events vectors (fieldTable b) b) ≤ cntV k (visits (fieldTable b) b) ∧
    locE k (events vectors (fieldTable b) b) ≤ wV k (visits (fieldTable b) b) := by
  have hnames := names_in_table b
  generalize fieldTable b = tbl at hnames ⊢
  unfold events
  generalize 0 = i
  induction b generalizing i with
  | nil => exact ⟨Nat.le_refl 0, Nat.le_refl 0⟩
  | cons d l ih =>
    obtain ⟨i1, i2⟩ := ih (fun x hx => hb x (List.mem_cons_of_mem _ hx))
      (fun x hx => hnames x (List.mem_cons_of_mem _ hx)) (i + 1)
    obtain ⟨d1, d2⟩ := doc_bounds vectors tbl k i d (hb d List.mem_cons_self) (hnames d List.mem_cons_self)
    rw [List.zipIdx_cons, List.flatMap_cons, cntE_append, locE_append, visits_cons, cntV_append, wV_append]
    exact ⟨Nat.add_le_add d1 i1, Nat.add_le_add d2 i2⟩

/-- the appends that went to postings list `pid` (`ks[pid]` is its (field, term)) -/
def evsAt (ks : List Key) (pid : Nat) (evs : List Ev) : List Ev :=
  evs.filter (fun e => ks[pid]? = some e.key)

theorem evsAt_append (ks : List Key) (pid : Nat) (a b : List Ev) :
    evsAt ks pid (a ++ b) = evsAt ks pid a ++ evsAt ks pid b := by
  simp [evsAt]

theorem evsAt_eq_filter (ks : List Key) (pid : Nat) (k : Key) (hk : ks[pid]? = some k) (evs : List Ev) :
    evsAt ks pid evs = evs.filter (fun e => e.key = k) := by
  unfold evsAt
  apply List.filter_congr
  intro e _
  rw [hk]
  apply decide_eq_decide.2
  constructor
  · intro h; exact (Option.some.inj h).symm
  · intro h; rw [h]

theorem evsAt_concat {ks : List Key} (hnd : ks.Nodup) {pid : Nat} {ev : Ev} (hpid : ks[pid]? = some ev.key)
    (q : Nat) (done : List Ev) :
    evsAt ks q (done ++ [ev]) = if q = pid then evsAt ks q done ++ [ev] else evsAt ks q done := by
  rw [evsAt_append]
  by_cases e : q = pid
  · simp [e, evsAt, hpid]
  · have hne : ¬ ks[q]? = some ev.key := fun h =>
      e ((List.getElem?_inj (List.getElem?_eq_some_iff.1 hpid).1 hnd).1 (hpid.trans h.symm)).symm
    simp [e, evsAt, hne]

/-- After the appends `done`, window `pid` of either array holds exactly what the events with key
    `ks[pid]` put there. -/
structure FillInv (c : Counts) (ks : List Key) (S : Fill) (done : List Ev) : Prop where
  notBad : S.bad = false
  fn : Exact S.fn c.nT (fun pid => (evsAt ks pid done).map Ev.cell)
  loc : Exact S.loc c.nL (fun pid => (evsAt ks pid done).flatMap Ev.locs)

theorem fillInv_step (nF : Nat) (c : Counts) (vs : List Visit) (ks : List Key) (hc : CInv nF c vs ks)
    (S : Fill) (done : List Ev) (ev : Ev) (h : FillInv c ks S done)
    (pid : Nat) (hpid : ks[pid]? = some ev.key)
    (hroomT : (evsAt ks pid done).length < c.nT.getD pid 0)
    (hroomL : ((evsAt ks pid done).flatMap Ev.locs).length + ev.locs.length ≤ c.nL.getD pid 0) :
    FillInv c ks (fillEv c S ev) (done ++ [ev]) := by
  have hlt : pid < ks.length := (List.getElem?_eq_some_iff.1 hpid).1
  have hstep : fillEv c S ev =
      { S with fn := S.fn.push pid ev.cell, loc := S.loc.pushAll pid ev.locs } := by
    unfold fillEv
    rw [(hc.look ev.fid ev.term pid).2 hpid]
    -- the guard `len(tf.Locations) > 0` only skips an empty loop
    cases ev.locs <;> rfl
  have hat := evsAt_concat hc.nodup hpid
  rw [hstep]
  exact {
    notBad := h.notBad
    fn := by
      apply exact_push S.fn c.nT _ _ pid ev.cell h.fn (hc.lenT ▸ hlt)
      · rw [List.length_map]
        exact hroomT
      · rw [hat, if_pos rfl, List.map_append]
        rfl
      · intro q hq
        rw [hat, if_neg hq]
    loc := by
      apply exact_pushAll ev.locs S.loc c.nL _ _ pid h.loc (hc.lenL ▸ hlt) hroomL
      · rw [hat, if_pos rfl, List.flatMap_append]
        simp
      · intro q hq
        rw [hat, if_neg hq] }

/-- `hT`, `hL` bound the totals of the whole pass (`done ++ todo`); a prefix has no more, which gives
    each step its room. -/
theorem fill_regions_exact (nF : Nat) (c : Counts) (vs : List Visit) (ks : List Key) (hc : CInv nF c vs ks)
    (todo : List Ev) (S : Fill) (done : List Ev) (h : FillInv c ks S done)
    (hkeys : ∀ ev ∈ todo, ev.key ∈ ks)
    (hT : ∀ pid, pid < ks.length → (evsAt ks pid (done ++ todo)).length ≤ c.nT.getD pid 0)
    (hL : ∀ pid, pid < ks.length →
      ((evsAt ks pid (done ++ todo)).flatMap Ev.locs).length ≤ c.nL.getD pid 0) :
    FillInv c ks (todo.foldl (fillEv c) S) (done ++ todo) := by
  induction todo generalizing S done with
  | nil => simpa using h
  | cons ev todo ih =>
    obtain ⟨pid, hpid⟩ := List.mem_iff_getElem?.1 (hkeys ev (by simp))
    have hlt : pid < ks.length := (List.getElem?_eq_some_iff.1 hpid).1
    have hsplit : done ++ ev :: todo = (done ++ [ev]) ++ todo := by simp
    have h1 := hT pid hlt
    have h2 := hL pid hlt
    rw [hsplit, evsAt_append, evsAt_concat hc.nodup hpid, if_pos rfl] at h1 h2
    simp only [List.length_append, List.flatMap_append, List.length_cons, List.length_nil,
      List.flatMap_cons, List.flatMap_nil, List.append_nil] at h1 h2
    have hstep := fillInv_step nF c vs ks hc S done ev h pid hpid
      (Nat.le_trans (Nat.le_add_right _ _) h1) (Nat.le_trans (Nat.le_add_right _ _) h2)
    rw [List.foldl_cons, hsplit]
    apply ih _ _ hstep (fun e he => hkeys e (by simp [he]))
    · rw [← hsplit]; exact hT
    · rw [← hsplit]; exact hL

theorem fillPass_inv (staleFN : List FN) (staleLoc : List MLoc) (vectors : Bool) (b : Batch)
    (hb : ∀ d ∈ b, DocTermsDistinct d) :
    ∃ ks, CInv (fieldTable b).length (countPass (fieldTable b) b) (visits (fieldTable b) b) ks ∧
      FillInv (countPass (fieldTable b) b) ks
        (fillPass vectors (fieldTable b) (countPass (fieldTable b) b)
          (initFill (countPass (fieldTable b) b) staleFN staleLoc) b)
        (events vectors (fieldTable b) b) := by
  obtain ⟨ks, hc, htot⟩ := countPass_cinv b
  refine ⟨ks, hc, ?_⟩
  generalize hcdef : countPass (fieldTable b) b = c at hc htot ⊢
  have h0 : FillInv c ks (initFill c staleFN staleLoc) [] :=
    ⟨rfl, exact_init staleFN c.nT c.totTFs htot, exact_init staleLoc c.nL c.totLocs (hc.totL.trans hc.sumL.symm)⟩
  have hbound := batch_bounds vectors b hb
  rw [fillPass_eq]
  have := fill_regions_exact _ c _ ks hc (events vectors (fieldTable b) b) _ [] h0 ?_ ?_ ?_
  · simpa using this
  · -- an appended key was counted
    intro ev hev
    have h1 : 0 < cntE ev.key (events vectors (fieldTable b) b) :=
      List.length_pos_of_mem (List.mem_filter.2 ⟨hev, decide_eq_true rfl⟩)
    exact (hc.mem ev.key).2 (Nat.lt_of_lt_of_le h1 (hbound ev.key).1)
  · intro pid hlt
    have hk : ks[pid]? = some ks[pid] := List.getElem?_eq_getElem hlt
    rw [List.nil_append, evsAt_eq_filter ks pid _ hk, hc.nT, List.getD_eq_getElem?_getD, List.getElem?_map, hk]
    exact (hbound ks[pid]).1
  · intro pid hlt
    have hk : ks[pid]? = some ks[pid] := List.getElem?_eq_getElem hlt
    rw [List.nil_append, evsAt_eq_filter ks pid _ hk, hc.nL, List.getD_eq_getElem?_getD, List.getElem?_map, hk]
    exact (hbound ks[pid]).2

end Zap.Arr
