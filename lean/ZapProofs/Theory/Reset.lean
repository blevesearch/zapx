/-
  Lemmas for ZapModel.Theory.Reset: why `zeroThenTruncate` (and the other zeroing kinds) is enough
  where `truncate` is not, and when `truncate` is nevertheless harmless.
-/
import ZapModel.Theory.Reset
import ZapProofs.Base.List

namespace Zap.Theory.Reset
open Zap.Gen

/-- The zeroing kinds (`leavesNoStale` without `bufferReset`): after them the whole backing array
    is zero (or gone). -/
def zeroing : ResetKind → Bool
  | .setNil | .zeroThenTruncate | .clearEachThenTruncate | .deleteAllKeys | .scalarZero => true
  | _ => false

theorem length_zeroPrefix (n : Nat) (l : List Nat) : (zeroPrefix n l).length = l.length := by
  induction n generalizing l with
  | zero => rfl
  | succ n ih => cases l <;> simp [zeroPrefix, ih]

theorem getD_zeroPrefix (n : Nat) (l : List Nat) (i : Nat) :
    (zeroPrefix n l).getD i 0 = if i < n then 0 else l.getD i 0 := by
  fun_induction zeroPrefix n l generalizing i with
  | case1 => rfl
  | case2 => exact (ite_self _).symm
  | case3 n a l ih =>
    cases i with
    | zero => rfl
    | succ i =>
      simp only [List.getD_cons_succ, Nat.succ_eq_add_one, Nat.add_lt_add_iff_right, ih i]

theorem getD_replicate_zero (n i : Nat) : (List.replicate n 0).getD i 0 = 0 := by
  simp only [List.getD_eq_getElem?_getD, List.getElem?_replicate]
  split <;> rfl

/-! ### `TailZero` is an invariant of everything a build does to a slice -/

theorem tailZero_fresh (n : Nat) : TailZero (Slice.fresh n) := by
  intro i _; exact getD_replicate_zero n i

theorem allZero_fresh (n : Nat) : AllZero (Slice.fresh n) := by
  intro i; exact getD_replicate_zero n i

theorem tailZero_write (s : Slice) (k v : Nat) (h : TailZero s) : TailZero (s.write k v) := by
  unfold Slice.write
  split
  · rename_i hk
    intro i hi
    simp only at hi ⊢
    rw [List.getD_set]
    have : ¬ (i = k) := Nat.ne_of_gt (Nat.lt_of_lt_of_le hk hi)
    rw [if_neg (mt And.left this)]; exact h i hi
  · exact h

theorem tailZero_reslice (s : Slice) (n : Nat) (h : TailZero s) (hn : s.len ≤ n) :
    TailZero (s.reslice n) := by
  unfold Slice.reslice
  split
  · intro i hi; exact h i (Nat.le_trans hn hi)
  · exact tailZero_fresh n

theorem tailZero_append (s : Slice) (v : Nat) (h : TailZero s) : TailZero (s.append v) := by
  unfold Slice.append
  split
  · intro i hi
    simp only at hi ⊢
    rw [List.getD_set]
    have : ¬ (i = s.len) := Nat.ne_of_gt hi
    rw [if_neg (mt And.left this)]; exact h i (Nat.le_of_succ_le hi)
  · rename_i hcap
    intro i hi
    simp only at hi ⊢
    simp only [List.getD_eq_getElem?_getD]
    rw [List.getElem?_eq_none]
    · rfl
    · exact Nat.le_trans (by simp [Nat.min_le_left]) hi

theorem tailZero_apply (s : Slice) (op : SOp) (h : TailZero s) : TailZero (op.apply s) := by
  cases op with
  | write i v => exact tailZero_write s i v h
  | append v => exact tailZero_append s v h
  | grow n =>
    simp only [SOp.apply]
    split
    · rename_i hn; exact tailZero_reslice s n h hn
    · exact h

/-! ### After a zeroing reset nothing stale is left -/

theorem allZero_of_zeroing (k : ResetKind) (s : Slice) (hk : zeroing k = true) (h : TailZero s) :
    AllZero (applyReset k s) := by
  have hz : AllZero ⟨zeroPrefix s.len s.data, 0⟩ := by
    intro i
    simp only
    rw [getD_zeroPrefix]
    split
    · rfl
    · exact h i (Nat.le_of_not_lt ‹_›)
  cases k with
  | setNil | deleteAllKeys | scalarZero => exact fun _ => rfl
  | zeroThenTruncate | clearEachThenTruncate => exact hz
  | truncate | bufferReset | notReset => simp [zeroing] at hk

theorem read_of_allZero (s : Slice) (h : AllZero s) (n i : Nat) : (s.reslice n).read i = 0 := by
  have hz : AllZero (s.reslice n) := by
    unfold Slice.reslice
    split
    · exact h
    · exact allZero_fresh n
  unfold Slice.read
  split
  · exact hz i
  · rfl

/-- Why zeroing matters: ANY slice a build can produce (`make`, then any writes, appends and grows),
    reset with a zeroing kind and re-sliced to ANY `n` (within capacity or not), reads as the zero
    value at every index. -/
theorem read_after_zeroing (k : ResetKind) (hk : zeroing k = true) (cap : Nat) (ops : List SOp)
    (n i : Nat) :
    ((applyReset k (runOps (Slice.fresh cap) ops)).reslice n).read i = 0 :=
  have htz : TailZero (runOps (Slice.fresh cap) ops) :=
    List.foldlRecOn ops _ (tailZero_fresh cap) fun s hs op _ => tailZero_apply s op hs
  read_of_allZero _ (allZero_of_zeroing k _ hk htz) n i

/-- Not so after `truncate`: the same re-slice exposes the previous content. -/
theorem stale_after_truncate :
    ∃ (cap : Nat) (ops : List SOp) (n i : Nat),
      ((applyReset .truncate (runOps (Slice.fresh cap) ops)).reslice n).read i ≠ 0 :=
  ⟨3, [.write 2 1], 3, 2, by decide⟩

/-- Nor without any reset. -/
theorem stale_after_notReset :
    ∃ (cap : Nat) (ops : List SOp) (i : Nat),
      (applyReset .notReset (runOps (Slice.fresh cap) ops)).read i ≠ 0 :=
  ⟨3, [.write 2 1], 2, by decide⟩

/-! ### When `truncate` is harmless: append-only use, or overwrite-before-read -/

def Slice.visible (s : Slice) : List Nat := s.data.take s.len

def Slice.WF (s : Slice) : Prop := s.len ≤ s.data.length

theorem visible_append (s : Slice) (v : Nat) : (s.append v).visible = s.visible ++ [v] := by
  unfold Slice.append Slice.visible
  split
  · next hlt =>
    show (s.data.set s.len v).take (s.len + 1) = s.data.take s.len ++ [v]
    rw [List.take_add_one, List.take_set_of_le (Nat.le_refl _), List.getElem?_set_self hlt]
    rfl
  · show (s.data.take s.len ++ [v]).take (s.len + 1) = s.data.take s.len ++ [v]
    exact List.take_of_length_le (by simp [Nat.min_le_left])

def appendAll (s : Slice) (vs : List Nat) : Slice := vs.foldl Slice.append s

theorem visible_appendAll (s : Slice) (vs : List Nat) :
    (appendAll s vs).visible = s.visible ++ vs := by
  induction vs generalizing s with
  | nil => simp [appendAll]
  | cons v vs ih =>
    show (appendAll (s.append v) vs).visible = _
    rw [ih, visible_append, List.append_assoc]
    rfl

/-- After `x = x[:0]`, a field that is only appended to shows exactly what was appended, whatever
    the capacity held: the justification for `bufferReset` and for the entries of C10's
    `allowTruncate` that are "appended from length 0". -/
theorem visible_after_truncate_appends (s : Slice) (vs : List Nat) :
    (appendAll (applyReset .truncate s) vs).visible = vs := by
  rw [visible_appendAll]
  simp [applyReset, Slice.visible]

theorem read_write (s : Slice) (k v i : Nat) (h : s.WF) :
    (s.write k v).read i = if i = k ∧ k < s.len then v else s.read i := by
  unfold Slice.write Slice.read Slice.WF at *
  by_cases hk : k < s.len
  · simp only [hk, if_true]
    by_cases hi : i < s.len
    · simp only [hi, if_true, List.getD_set]
      have : k < s.data.length := Nat.lt_of_lt_of_le hk h
      simp only [this, and_true]
    · have : ¬ (i = k) := fun e => hi (e ▸ hk)
      simp [hi, this]
  · rw [if_neg hk, if_neg (mt And.right hk)]

/-- `for j, v := range vs { x[k+j] = v }` -/
def writeAll (s : Slice) : Nat → List Nat → Slice
  | _, [] => s
  | k, v :: vs => writeAll (s.write k v) (k + 1) vs

theorem write_len (s : Slice) (k v : Nat) : (s.write k v).len = s.len := by
  unfold Slice.write; split <;> rfl

theorem write_wf (s : Slice) (k v : Nat) (h : s.WF) : (s.write k v).WF := by
  unfold Slice.write
  split
  · show s.len ≤ (s.data.set k v).length
    rw [List.length_set]; exact h
  · exact h

theorem read_writeAll (s : Slice) (k : Nat) (vs : List Nat) (i : Nat) (h : s.WF)
    (hk : k + vs.length ≤ s.len) :
    (writeAll s k vs).read i
      = if k ≤ i ∧ i < k + vs.length then vs.getD (i - k) 0 else s.read i := by
  induction vs generalizing s k with
  | nil => exact (if_neg fun ⟨h1, h2⟩ => Nat.not_lt.mpr h1 h2).symm
  | cons v vs ih =>
    simp only [writeAll, List.length_cons] at hk ⊢
    rw [ih (s.write k v) (k + 1) (write_wf s k v h)
      (by rw [write_len, Nat.add_right_comm]; exact hk)]
    rw [read_write s k v i h]
    by_cases h1 : k + 1 ≤ i ∧ i < k + 1 + vs.length
    · have h2 : k ≤ i ∧ i < k + (vs.length + 1) := by omega
      simp only [h1, h2, and_self, if_true]
      have : i - k = (i - (k + 1)) + 1 := by omega
      rw [this, List.getD_cons_succ]
    · simp only [h1, if_false]
      by_cases h3 : i = k
      · subst h3
        have : i < s.len := Nat.lt_of_lt_of_le (Nat.lt_add_of_pos_right (Nat.succ_pos _)) hk
        simp [this]
      · have h2 : ¬ (k ≤ i ∧ i < k + (vs.length + 1)) := by omega
        rw [if_neg h2, if_neg fun h => h3 h.1]

/-- After `x = x[:0]`, re-slice to `n` within capacity and assign every index below `n`: every read
    returns what was assigned, whatever the capacity held: the justification for the entries of
    C10's `allowTruncate` that are re-sliced and then assigned at every index. -/
theorem read_after_truncate_overwrite (s : Slice) (vs : List Nat) (i : Nat)
    (hn : vs.length ≤ s.data.length) (hi : i < vs.length) :
    (writeAll ((applyReset .truncate s).reslice vs.length) 0 vs).read i = vs.getD i 0 := by
  have hre : (applyReset .truncate s).reslice vs.length = ⟨s.data, vs.length⟩ := by
    simp [applyReset, Slice.reslice, hn]
  rw [hre, read_writeAll _ 0 vs i (by simpa [Slice.WF] using hn) (by simp)]
  simp [hi]

end Zap.Theory.Reset
