/-
  The two chunk readers of a postings iterator (`ZapModel.Posting`), seen abstractly: where they
  stand relative to a suffix of the entry list (`Pos`, `Ready`), and what the three skip loops of
  `nextDocNumAtOrAfter` (`iterN … currChunkNext`, `cleanLoop`, `It.catchUp`) do to that position.
-/
import ZapModel.Posting

namespace Zap

def Asc (es : List Entry) : Prop := es.Pairwise (fun a b => a.doc < b.doc)

theorem asc_suffix {pre rem : List Entry} (h : Asc (pre ++ rem)) : Asc rem :=
  (List.pairwise_append.1 h).2.1

theorem chunkOf_mono (cs : Nat) {a b : Nat} (h : a ≤ b) : chunkOf cs a ≤ chunkOf cs b :=
  Nat.div_le_div_right h

/-- The test `allN >= nChunk * chunkSize` of the catch-up loop decides "same chunk". -/
theorem reach_iff {cs a n : Nat} (hcs : 0 < cs) (h : a ≤ n) :
    (chunkOf cs n * cs ≤ a) ↔ chunkOf cs a = chunkOf cs n := by
  unfold chunkOf
  constructor
  · intro h1
    apply Nat.le_antisymm (Nat.div_le_div_right h)
    exact (Nat.le_div_iff_mul_le hcs).2 h1
  · intro h1
    rw [← h1]
    exact Nat.div_mul_le_self a cs

theorem chunkEntries_cons (e : Entry) (es : List Entry) (cs c : Nat) :
    chunkEntries (e :: es) cs c
      = if chunkOf cs e.doc = c then e :: chunkEntries es cs c else chunkEntries es cs c := by
  unfold chunkEntries
  by_cases h : chunkOf cs e.doc = c <;> simp [h]

theorem chunkEntries_append (a b : List Entry) (cs c : Nat) :
    chunkEntries (a ++ b) cs c = chunkEntries a cs c ++ chunkEntries b cs c := by
  simp [chunkEntries]

theorem chunkEntries_eq_nil {a : List Entry} {cs c : Nat}
    (h : ∀ x ∈ a, chunkOf cs x.doc ≠ c) : chunkEntries a cs c = [] := by
  simp only [chunkEntries, List.filter_eq_nil_iff]
  intro x hx
  simpa using h x hx

theorem asc_chunk_ne {cs : Nat} {pre : List Entry} {e : Entry} {rem : List Entry}
    (hasc : Asc (pre ++ e :: rem)) {e2 : Entry} (he2 : e2 ∈ rem)
    (hne : chunkOf cs e.doc ≠ chunkOf cs e2.doc) :
    ∀ x ∈ pre ++ [e], chunkOf cs x.doc ≠ chunkOf cs e2.doc := by
  unfold Asc at hasc
  rw [List.pairwise_append, List.pairwise_cons] at hasc
  obtain ⟨_, ⟨he, _⟩, hpe⟩ := hasc
  intro x hx
  have hxle : x.doc ≤ e.doc := by
    rcases List.mem_append.1 hx with hx | hx
    · exact Nat.le_of_lt (hpe x hx e List.mem_cons_self)
    · rw [List.mem_singleton.1 hx]
      exact Nat.le_refl _
  -- chunk x ≤ chunk e ≤ chunk e2, and the last two differ
  have h3 := chunkOf_mono cs hxle
  have h4 := chunkOf_mono cs (Nat.le_of_lt (he e2 he2))
  exact fun h => hne (Nat.le_antisymm h4 (h ▸ h3))

/-- The second half of `currChunkNext` (`currChunkNext_eq`): consume one entry in the freq/norm
    reader and, if it has locations, its block in the location reader
    (`skipFreqNormReadHasLocs` + `SkipBytes`). -/
def It.pop (i : It) : It :=
  match i.fn with
  | [] => i
  | e :: rest =>
    let i := { i with fn := rest }
    if i.incLocs ∧ !e.locs.isEmpty then { i with loc := i.loc.drop 1 } else i

theorem currChunkNext_eq (i : It) (c : Nat) : i.currChunkNext c = (i.ensureChunk c).pop := by
  rfl  -- the tactic: one comparison of the unfolded bodies, where the term `rfl` makes three

/-- What the skip loops leave alone: every field of `It` but the reader position (`currChunk`,
    `loaded`, `fn`, `loc`) and `oneHit`.  (`Frame` and, in `Read/Posting`, `Inv` and `Mid` list
    fields of `It` one by one: a new field of `It` has to be added to all three and to the anonymous
    constructors of `Frame.refl`, `.trans`, `.setAll`.) -/
structure Frame (i j : It) : Prop where
  pl : j.pl = i.pl
  incFN : j.incFN = i.incFN
  incLocs : j.incLocs = i.incLocs
  isOneHit : j.isOneHit = i.isOneHit
  hasActual : j.hasActual = i.hasActual
  clean : j.clean = i.clean
  all : j.all = i.all
  actual : j.actual = i.actual

theorem Frame.refl (i : It) : Frame i i := ⟨rfl, rfl, rfl, rfl, rfl, rfl, rfl, rfl⟩

theorem Frame.trans {i j k : It} (a : Frame i j) (b : Frame j k) : Frame i k :=
  ⟨b.pl.trans a.pl, b.incFN.trans a.incFN, b.incLocs.trans a.incLocs, b.isOneHit.trans a.isOneHit,
   b.hasActual.trans a.hasActual, b.clean.trans a.clean, b.all.trans a.all, b.actual.trans a.actual⟩

theorem Frame.setAll {i j : It} (a : List Nat) (h : Frame i j) :
    Frame { i with all := a } { j with all := a } :=
  ⟨h.pl, h.incFN, h.incLocs, h.isOneHit, h.hasActual, h.clean, rfl, h.actual⟩

theorem ensureChunk_frame (i : It) (c : Nat) : Frame i (i.ensureChunk c) := by
  unfold It.ensureChunk
  split <;> exact ⟨rfl, rfl, rfl, rfl, rfl, rfl, rfl, rfl⟩

theorem pop_frame (i : It) : Frame i i.pop := by
  unfold It.pop
  split
  · exact Frame.refl i
  · dsimp only
    split <;> exact ⟨rfl, rfl, rfl, rfl, rfl, rfl, rfl, rfl⟩

theorem currChunkNext_frame (i : It) (c : Nat) : Frame i (i.currChunkNext c) := by
  rw [currChunkNext_eq]
  exact (ensureChunk_frame i c).trans (pop_frame _)

/-- Chunk `c` is loaded and the readers stand at the entries of the suffix `rem` that lie in it. -/
structure Pos (p : PList) (i : It) (rem : List Entry) (c : Nat) : Prop where
  cur : i.currChunk = c
  loaded : i.loaded = true
  fn : i.fn = chunkEntries rem p.chunkSize c
  loc : i.incLocs = true →
    i.loc = (chunkEntries rem p.chunkSize c).filter (fun e => !e.locs.isEmpty)

/-- `Pos` after the chunk load that `currChunkNext` and `nextDocNumAtOrAfter` do on demand.  This,
    not `Pos`, is invariant: between calls the readers may still hold an earlier chunk. -/
def Ready (p : PList) (i : It) (rem : List Entry) (c : Nat) : Prop :=
  i.incFN = true → Pos p (i.ensureChunk c) rem c

theorem pos_pop {p : PList} {i : It} {e : Entry} {rem : List Entry} {c : Nat}
    (h : Pos p i (e :: rem) c) (he : chunkOf p.chunkSize e.doc = c) : Pos p i.pop rem c := by
  have hfn := h.fn
  rw [chunkEntries_cons, if_pos he] at hfn
  have hloc := h.loc
  rw [chunkEntries_cons, if_pos he] at hloc
  unfold It.pop
  rw [hfn]
  dsimp only
  by_cases hl : i.incLocs = true ∧ (!e.locs.isEmpty) = true
  · rw [if_pos hl]
    refine ⟨h.cur, h.loaded, rfl, ?_⟩
    intro _
    show i.loc.drop 1 = _
    rw [hloc hl.1, List.filter_cons_of_pos (by simpa using hl.2)]
    rfl
  · rw [if_neg hl]
    refine ⟨h.cur, h.loaded, rfl, ?_⟩
    intro hi
    show i.loc = _
    rw [hloc hi, List.filter_cons_of_neg]
    intro hne
    exact hl ⟨hi, hne⟩

theorem ready_of_pos {p : PList} {i : It} {rem : List Entry} {c : Nat}
    (h : i.incFN = true → Pos p i rem c) : Ready p i rem c := by
  intro hf
  have hp := h hf
  unfold It.ensureChunk
  rwa [if_neg (by simp [hp.cur, hp.loaded])]

theorem ready_skip_same {p : PList} {i : It} {e : Entry} {rem : List Entry} {c : Nat}
    (h : Ready p i (e :: rem) c) (he : chunkOf p.chunkSize e.doc = c) :
    Ready p (i.currChunkNext c) rem c := by
  apply ready_of_pos
  intro hf
  rw [(currChunkNext_frame i c).incFN] at hf
  rw [currChunkNext_eq]
  exact pos_pop (h hf) he

theorem ready_skip_other {p : PList} {i : It} {e : Entry} {rem : List Entry} {c : Nat}
    (h : Ready p i (e :: rem) c) (he : chunkOf p.chunkSize e.doc ≠ c) : Ready p i rem c := by
  intro hf
  have := h hf
  constructor
  · exact this.cur
  · exact this.loaded
  · rw [this.fn, chunkEntries_cons, if_neg he]
  · intro hl
    rw [this.loc hl, chunkEntries_cons, if_neg he]

theorem ready_setCursors {p : PList} {i : It} {rem : List Entry} {c : Nat} (a b : List Nat)
    (cl ha : Bool) (h : Ready p i rem c) :
    Ready p { i with actual := a, all := b, clean := cl, hasActual := ha } rem c := by
  intro hf
  have hp := h hf
  unfold It.ensureChunk at hp ⊢
  by_cases hc : i.currChunk ≠ c ∨ (!i.loaded) = true
  · rw [if_pos hc] at hp ⊢
    exact ⟨hp.cur, hp.loaded, hp.fn, hp.loc⟩
  · rw [if_neg hc] at hp ⊢
    exact ⟨hp.cur, hp.loaded, hp.fn, hp.loc⟩

theorem load_ready {p : PList} {i : It} {P R : List Entry} {c : Nat}
    (hpl : i.pl = p) (hes : p.entries = P ++ R)
    (hP : ∀ x ∈ P, chunkOf p.chunkSize x.doc ≠ c)
    (hR : ∃ e ∈ R, chunkOf p.chunkSize e.doc = c)
    (hne : i.currChunk ≠ c ∨ i.loaded = false) : Ready p i R c := by
  intro hf
  have hcond : i.currChunk ≠ c ∨ (!i.loaded) = true := by simpa using hne
  unfold It.ensureChunk
  rw [if_pos hcond]
  unfold It.loadChunk
  rw [hpl, hes, chunkEntries_append, chunkEntries_eq_nil hP, List.nil_append]
  refine ⟨rfl, ?_, ?_, ?_⟩
  · obtain ⟨e, he, hc⟩ := hR
    have : e ∈ chunkEntries R p.chunkSize c := by
      simp [chunkEntries, he, hc]
    show (!(chunkEntries R p.chunkSize c).isEmpty) = true
    cases hce : chunkEntries R p.chunkSize c with
    | nil => rw [hce] at this; cases this
    | cons _ _ => rfl
  · show (if i.incFN = true then _ else _) = _
    rw [if_pos hf]
  · intro hl
    have hl' : i.incLocs = true := hl
    show (if i.incLocs = true then _ else _) = _
    rw [if_pos hl']

/-- The loop `for j := 0; j < sameChunkNexts; j++ { currChunkNext }` of the clean path. -/
theorem iterN_skip {p : PList} (c : Nat) : ∀ (sk : List Entry) (i : It) (R : List Entry),
    Ready p i (sk ++ R) c →
    Ready p (iterN (fun j => j.currChunkNext c) (chunkEntries sk p.chunkSize c).length i) R c ∧
    Frame i (iterN (fun j => j.currChunkNext c) (chunkEntries sk p.chunkSize c).length i) := by
  intro sk
  induction sk with
  | nil => intro i R h; exact ⟨h, Frame.refl i⟩
  | cons x sk ih =>
    intro i R h
    rw [chunkEntries_cons]
    by_cases hx : chunkOf p.chunkSize x.doc = c
    · rw [if_pos hx]
      show Ready p (iterN _ _ (i.currChunkNext c)) R c ∧ Frame i (iterN _ _ (i.currChunkNext c))
      have h' : Ready p (i.currChunkNext c) (sk ++ R) c := ready_skip_same h hx
      obtain ⟨h1, h2⟩ := ih (i.currChunkNext c) R h'
      exact ⟨h1, (currChunkNext_frame i c).trans h2⟩
    · rw [if_neg hx]
      exact ih i R (ready_skip_other h hx)

/-- The right-hand side is the `sameChunkNexts` update of `cleanLoop`: stepping from `e` to `m`
    either stays in the chunk of `e` (one more entry to skip) or opens a chunk that nothing before
    `m` lies in. -/
theorem length_chunkEntries_snoc {cs : Nat} {pre : List Entry} {e m : Entry} {r : List Entry}
    (h : Asc (pre ++ e :: m :: r)) :
    (chunkEntries (pre ++ [e]) cs (chunkOf cs m.doc)).length
      = if chunkOf cs m.doc ≠ chunkOf cs e.doc then 0
        else (chunkEntries pre cs (chunkOf cs e.doc)).length + 1 := by
  by_cases hc : chunkOf cs m.doc = chunkOf cs e.doc
  · rw [if_neg (fun h => h hc), hc, chunkEntries_append]
    simp [chunkEntries]
  · rw [if_pos hc, chunkEntries_eq_nil (asc_chunk_ne h List.mem_cons_self (Ne.symm hc))]
    rfl

/-- `pre` (what lies before `cur`) is there for the induction: the counter passed in is the number
    of entries of `pre` in the chunk of `cur`. -/
theorem cleanLoop_skips (cs t : Nat) (e : Entry) (r' : List Entry) (hstop : t ≤ e.doc) :
    ∀ (sk : List Entry) (cur : Entry) (L pre : List Entry), cur :: L = sk ++ e :: r' →
      Asc (pre ++ cur :: L) → (∀ x ∈ sk, x.doc < t) →
      cleanLoop cs t cur.doc (chunkOf cs cur.doc)
          (chunkEntries pre cs (chunkOf cs cur.doc)).length (L.map (·.doc))
        = (e.doc, chunkOf cs e.doc, (chunkEntries (pre ++ sk) cs (chunkOf cs e.doc)).length,
           r'.map (·.doc)) := by
  intro sk
  induction sk with
  | nil =>
    intro cur L pre hsplit _ _
    obtain ⟨rfl, rfl⟩ := List.cons.inj hsplit
    rw [List.append_nil]
    cases L with
    | nil => simp [cleanLoop]
    | cons m L' =>
      simp only [List.map_cons, cleanLoop, if_neg (Nat.not_lt.2 hstop)]
  | cons x sk ih =>
    intro cur L pre hsplit hasc hlt
    simp only [List.cons_append, List.cons.injEq] at hsplit
    obtain ⟨rfl, rfl⟩ := hsplit
    cases hL : sk ++ e :: r' with
    | nil => simp at hL
    | cons a L' =>
      rw [hL] at hasc
      simp only [List.map_cons, cleanLoop, if_pos (hlt cur List.mem_cons_self)]
      rw [← length_chunkEntries_snoc hasc]
      have := ih a L' (pre ++ [cur]) hL.symm (by simpa using hasc)
        (fun y hy => hlt y (List.mem_cons_of_mem _ hy))
      rw [this]
      simp

theorem cleanLoop_exhaust (cs t : Nat) : ∀ (r : List Nat) (n c s : Nat), n < t → (∀ x ∈ r, x < t) →
    ∃ n' c' s', cleanLoop cs t n c s r = (n', c', s', []) ∧ n' < t
  | [], n, c, s, hn, _ => ⟨n, c, s, by simp [cleanLoop], hn⟩
  | m :: r, n, c, s, hn, hr => by
    simp only [cleanLoop, if_pos hn]
    exact cleanLoop_exhaust cs t r m _ _ (hr m List.mem_cons_self)
      (fun x hx => hr x (List.mem_cons_of_mem _ hx))

theorem catchUp_spec {p : PList} (hcs : 0 < p.chunkSize) (e : Entry) (rem' : List Entry) :
    ∀ (sk : List Entry) (cur : Entry) (L : List Entry) (i : It),
      cur :: L = sk ++ e :: rem' →
      (∀ x ∈ sk, x.doc < e.doc) →
      Ready p i (sk ++ e :: rem') (chunkOf p.chunkSize e.doc) →
      ∃ i', It.catchUp i e.doc (chunkOf p.chunkSize e.doc)
              (chunkOf p.chunkSize e.doc * p.chunkSize) cur.doc (L.map (·.doc)) = some i' ∧
        Frame { i with all := rem'.map (·.doc) } i' ∧
        Ready p i' (e :: rem') (chunkOf p.chunkSize e.doc) := by
  intro sk
  induction sk with
  | nil =>
    intro cur L i hsplit _ hr
    simp only [List.nil_append, List.cons.injEq] at hsplit
    obtain ⟨rfl, rfl⟩ := hsplit
    refine ⟨{ i with all := L.map (·.doc) }, ?_, Frame.refl _, ?_⟩
    · rw [It.catchUp, if_pos rfl]
    · exact ready_setCursors i.actual (L.map (·.doc)) i.clean i.hasActual hr
  | cons x sk ih =>
    intro cur L i hsplit hlt hr
    simp only [List.cons_append, List.cons.injEq] at hsplit
    obtain ⟨rfl, rfl⟩ := hsplit
    have hx : cur.doc < e.doc := hlt cur List.mem_cons_self
    have hne : cur.doc ≠ e.doc := Nat.ne_of_lt hx
    rw [It.catchUp, if_neg hne]
    generalize hi2 : (if i.incFN = true ∧ cur.doc ≥ chunkOf p.chunkSize e.doc * p.chunkSize
        then i.currChunkNext (chunkOf p.chunkSize e.doc) else i) = i2
    have hfr : Frame i i2 := by
      rw [← hi2]; split
      · exact currChunkNext_frame _ _
      · exact Frame.refl _
    have hr2 : Ready p i2 (sk ++ e :: rem') (chunkOf p.chunkSize e.doc) := by
      rw [← hi2]
      by_cases hreach : chunkOf p.chunkSize e.doc * p.chunkSize ≤ cur.doc
      · have hsame := (reach_iff hcs (Nat.le_of_lt hx)).1 hreach
        by_cases hf : i.incFN = true
        · rw [if_pos ⟨hf, hreach⟩]
          exact ready_skip_same hr hsame
        · rw [if_neg (fun h => hf h.1)]
          intro hf'; exact absurd hf' hf
      · rw [if_neg (fun h => hreach h.2)]
        have hother : chunkOf p.chunkSize cur.doc ≠ chunkOf p.chunkSize e.doc :=
          fun h => hreach ((reach_iff hcs (Nat.le_of_lt hx)).2 h)
        exact ready_skip_other hr hother
    cases hL : sk ++ e :: rem' with
    | nil => simp at hL
    | cons a L' =>
      simp only [List.map_cons]
      obtain ⟨i', h1, h2, h3⟩ :=
        ih a L' i2 hL.symm (fun y hy => hlt y (List.mem_cons_of_mem _ hy)) hr2
      exact ⟨i', h1, (hfr.setAll _).trans h2, h3⟩

end Zap
