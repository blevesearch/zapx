/-
  C16 (vector search ignores cache history; indexes live exactly as long as used).

  MODEL.  `VecSearch.HCache` is `VCache` (ZapModel.Vector, the state the differential driver
  steps with `open` / `closeHandle` / `tick` / `clear` and checks with `tickLegal`) plus ghost
  data: every entry carries its creation number `gen` (= identity of the engine index) and
  the id table built by the creating call; every open handle remembers the engine index, the
  table and the exclusion list its closures captured.  `VecL.toVCache_step` (Vec.Cache) says
  that forgetting the ghost data commutes with every event, so every statement below about
  `s.toVCache` is a statement about the driver's `VCache`.

  HISTORIES.  `run S {} evs = some s`: the events `evs`, each legal when it happens, lead from
  the empty cache to `s`.  Legal (`HCache.legal`):
    open f ex   only while the segment is not closed;
    close h     only for a handle that was opened and not yet closed (`h ∈ s.handles`);
    tick ev     only if `VCache.tickLegal` (every evicted field is cached with refs ≤ 0);
    clear       once.
  All theorems quantify over ALL such histories (any length, any fields, any except lists).

  NOT MODELLED / ASSUMED
  * eviction TIMING (the EWMA in floats of `cleanup`): a tick may evict any set of fields
    with refs ≤ 0.  The harness reports what the real tick evicted, the driver checks
    `tickLegal` and these theorems say what legality implies;
  * atomicity: an event is one atomic step (the lock discipline of `vectorIndexCache.m` is
    C11's lockset theorem); `entry.close()` running in its own goroutine is one release;
  * `Clear` with handles still open is legal in the model (as in the code: it force-closes
    every index).  That no searcher holds a handle at segment close is the caller's
    obligation (segment reference count, C20); `C16_not_released_while_open` covers ticks,
    and `C16_not_released_while_open_ghost` covers every history in which the segment is
    still open;
  * fields without a vector section never touch the cache and are not events.
-/
import ZapProofs.Vec.Cache

namespace Zap.C16
open Zap.VecSearch Zap.VecL

/-- `refs` of every cached entry = number of open handles of its field (all of them were
    obtained since the entry was created, `C16_handle_entry_cached`), in particular ≥ 0;
    and a field is cached at most once. -/
theorem C16_refs_eq_open_handles (S : Setup) (evs : List Ev) (s : HCache)
    (h : run S {} evs = some s) :
    (∀ e ∈ s.toVCache.entries, e.refs = (s.openHandles e.field : Int) ∧ 0 ≤ e.refs) ∧
    (s.toVCache.entries.map (·.field)).Nodup := by
  have hi := inv_run S evs {} s inv_init h
  constructor
  · intro e he
    simp only [HCache.toVCache, List.mem_map] at he
    obtain ⟨e', he', rfl⟩ := he
    have := hi.refsEq e' he'
    exact ⟨this, this ▸ Int.natCast_nonneg _⟩
  · have : s.toVCache.entries.map (·.field) = s.entries.map (·.field) := by
      simp [HCache.toVCache, List.map_map, Function.comp_def]
    rw [this]; exact hi.fieldsNodup

/-- while the segment is open, the entry a handle was obtained from is still the cached
    entry of its field: same engine index (`gen`), same table -/
theorem C16_handle_entry_cached (S : Setup) (evs : List Ev) (s : HCache)
    (h : run S {} evs = some s) (hc : s.closed = false) (hd : Handle) (hh : hd ∈ s.handles) :
    ∃ e ∈ s.entries, e.field = hd.field ∧ e.gen = hd.gen ∧ e.vmap = hd.vmap :=
  (inv_run S evs {} s inv_init h).handleEntry hc hd hh

/-- a legal tick never evicts a field with an open handle: every evicted field has no open
    handle, every entry with an open handle survives the tick unchanged, and no engine index
    captured by an open handle is among those the tick releases (`HCache.releasedBy`) -/
theorem C16_not_released_while_open (S : Setup) (evs : List Ev) (s : HCache)
    (h : run S {} evs = some s) (ev : List Name) (hl : s.toVCache.tickLegal ev = true) :
    (∀ f ∈ ev, s.openHandles f = 0) ∧
    (∀ e ∈ s.toVCache.entries, 0 < s.openHandles e.field → e ∈ (s.toVCache.tick ev).entries) ∧
    (∀ hd ∈ s.handles, hd.gen ∉ s.releasedBy (.tick ev)) := by
  have hi := inv_run S evs {} s inv_init h
  have h0 := tick_no_open s ev hi hl
  refine ⟨h0, ?_, ?_⟩
  · intro e he hpos
    refine List.mem_filter.2 ⟨he, ?_⟩
    have hk : e.field ∉ ev := fun hm => Nat.ne_of_gt hpos (h0 _ hm)
    simpa using hk
  · intro hd hh hmem
    obtain ⟨e, he, hg⟩ := List.mem_map.1 hmem
    obtain ⟨he, hev⟩ := List.mem_filter.1 he
    obtain ⟨e', he', h1, h2, _⟩ := hi.handleEntry (hi.open_of_entry he) hd hh
    have hee : e = e' := hi.gen_inj he he' (hg.trans h2.symm)
    have hpos := openHandles_pos s hd hh
    rw [← h1, ← hee, h0 e.field (by simpa using hev)] at hpos
    cases hpos

/-- ghost form, every history: while the segment is open, the engine index captured by an
    open handle has not been released -/
theorem C16_not_released_while_open_ghost (S : Setup) (evs : List Ev) (s : HCache)
    (h : run S {} evs = some s) (hc : s.closed = false) (hd : Handle) (hh : hd ∈ s.handles) :
    hd.gen ∉ s.released := by
  have hi := inv_run S evs {} s inv_init h
  obtain ⟨e, he, _, h2, _⟩ := hi.handleEntry hc hd hh
  exact fun hmem => hi.not_both hd.gen ⟨hmem, List.mem_map.2 ⟨e, he, h2⟩⟩

/-- `created = released + live`, for EVERY event sequence on the plain `VCache` (legal or
    not), and after `clear`: nothing live, everything created was released -/
theorem C16_released_exactly_once (evs : List Ev) :
    let c := evs.foldl vstep ({} : VCache)
    c.created = c.released + c.live ∧
    c.clear.live = 0 ∧ c.clear.released = c.clear.created := by
  have h := vcount_foldl evs ({} : VCache) (by simp [VCache.live])
  -- `clear` empties the entries and adds their number to `released`
  exact ⟨h, rfl, h.symm⟩

/-- ghost form for legal histories: the released engine indexes are pairwise different (none
    is released twice), every index ever created is either released or live and not both;
    once the segment is closed none is live and all are released -/
theorem C16_released_exactly_once_ghost (S : Setup) (evs : List Ev) (s : HCache)
    (h : run S {} evs = some s) :
    s.released.Nodup ∧
    (∀ g, g < s.created ↔ (g ∈ s.released ∨ g ∈ s.entries.map (·.gen))) ∧
    (∀ g, ¬ (g ∈ s.released ∧ g ∈ s.entries.map (·.gen))) ∧
    s.toVCache.created = s.toVCache.released + s.toVCache.live ∧
    s.toVCache = evs.foldl vstep {} ∧
    (s.closed = true → s.toVCache.live = 0 ∧ s.toVCache.released = s.toVCache.created ∧
        ∀ g, g < s.created → g ∈ s.released) := by
  have hi := inv_run S evs {} s inv_init h
  have hcount : s.toVCache.created = s.toVCache.released + s.toVCache.live := by
    simp only [HCache.toVCache, VCache.live, List.length_map]
    exact hi.count
  refine ⟨(List.nodup_append.1 hi.allNodup).1, hi.lt_created_iff, hi.not_both, hcount,
    run_toVCache S evs {} s h, ?_⟩
  intro hc
  have he := hi.closedEmpty hc
  have hlive : s.toVCache.live = 0 := by
    simp only [HCache.toVCache, VCache.live, he, List.map_nil, List.length_nil]
  refine ⟨hlive, by rw [hcount, hlive, Nat.add_zero], ?_⟩
  intro g hg
  simpa [he] using (hi.lt_created_iff g).1 hg

/-- the table a cache miss builds does not depend on the creating call's `except` (after the
    fix of D5) -/
theorem C16_cached_map_independent (seg : Name → Content) (c : Content) (ex ex' : List Nat) :
    (Setup.fixed seg).mkMap c ex = (Setup.fixed seg).mkMap c ex' := rfl

/-- With the complete table, in EVERY history every cached entry holds the complete table of
    its field and a search through any open handle is `search` / `searchWithFilter` of
    C14 on (content, q, k, eligible, the handle's own `except`): a function of these
    only - not of earlier opens with other except lists, not of evictions and reloads. -/
theorem C16_result_history_independent (seg : Name → Content) (evs : List Ev) (s : HCache)
    (h : run (Setup.fixed seg) {} evs = some s) :
    (∀ e ∈ s.entries, e.vmap = vecDocIDMap (seg e.field)) ∧
    ∀ hd ∈ s.handles, ∀ (E : Engine) (dim metric numDocs : Nat) (q : List Int) (k : Nat) (eligible : List Nat),
      hd.search E dim q k = search E ⟨dim, metric, seg hd.field⟩ q k hd.ex ∧
      hd.searchWithFilter E dim numDocs q k eligible =
        searchWithFilter E ⟨dim, metric, seg hd.field⟩ numDocs q k hd.ex eligible := by
  have hm := mapsOK_run seg evs {} s (mapsOK_init seg) h
  refine ⟨hm.entries, ?_⟩
  intro hd hh E dim metric numDocs q k eligible
  obtain ⟨h1, h2⟩ := hm.handles hd hh
  simp only [Handle.search, Handle.searchWithFilter, search, searchWithFilter, h1, h2, and_self]

/-! ### The defect (D5) as a counterexample, and non-vacuity -/

def fX : Name := [120]
def ixX : VIndex := { dim := 1, metric := 0, content := [(0, 0, [0]), (1, 1, [5])] }
def segX : Name → Content := fun _ => ixX.content

/-- first caller excludes doc 0, closes; second caller excludes nothing -/
def histX (S : Setup) : Option HCache :=
  match run S {} [.open fX [0]] with
  | some s1 =>
    match s1.handles with
    | h1 :: _ => run S s1 [.close h1, .open fX []]
    | [] => none
  | none => none

def resultX (S : Setup) : Option (List VHit) :=
  (histX S).bind (fun s => s.handles.getLast?.map (fun h => h.search (refEngine ixX) 1 [0] 2))

/-- BEFORE the fix: the table cached under `ex1 = [0]` lacks doc 0's vector; the later search
    with `ex2 = []` gets that vector from the engine and drops it as "unknown id" -/
theorem C16_first_except_counterexample :
    resultX (Setup.defect segX) = some [⟨1, 25⟩] ∧
    search (refEngine ixX) ixX [0] 2 [] = [⟨0, 0⟩, ⟨1, 25⟩] ∧
    resultX (Setup.fixed segX) = some [⟨0, 0⟩, ⟨1, 25⟩] := by decide +kernel

/-- a legal history: a miss, a hit, a tick that evicts nothing (both handles are open), the two
    closes, a tick that evicts the field, a reload, clear -/
def histY : List Ev :=
  [.open fX [0], .open fX [], .tick [], .close ⟨fX, 0, [0], vecDocIDMap ixX.content, [0]⟩,
   .close ⟨fX, 0, [], vecDocIDMap ixX.content, []⟩, .tick [fX], .open fX [1], .clear]

example : (run (Setup.fixed segX) {} histY).map (fun s => (s.toVCache, s.released, s.handles.length)) =
    some ({ entries := [], closed := true, created := 2, released := 2 }, [0, 1], 1) := by decide +kernel

/-- evicting a field whose handle is still open is not legal -/
example : run (Setup.fixed segX) {} [.open fX [], .tick [fX]] = none := by decide +kernel

/-- refs counts handles -/
example : (run (Setup.fixed segX) {} [.open fX [], .open fX [0]]).map (fun s => s.toVCache.entries) =
    some [⟨fX, 2⟩] := by decide +kernel

/-- why `open` is legal only while the segment is not closed: a handle that outlives `Clear`
    followed by a re-open would be counted against the new entry (refs 1, two open handles).
    `run` refuses that history; the code would panic on the nil cache map. -/
example :
    let s := ((({} : HCache).step (Setup.fixed segX) (.open fX [])).step (Setup.fixed segX) .clear).step
      (Setup.fixed segX) (.open fX [])
    s.toVCache.entries = [⟨fX, 1⟩] ∧ s.openHandles fX = 2 ∧
    run (Setup.fixed segX) {} [.open fX [], .clear, .open fX []] = none := by decide +kernel

section Report
#print axioms C16_refs_eq_open_handles
#print axioms C16_handle_entry_cached
#print axioms C16_not_released_while_open
#print axioms C16_not_released_while_open_ghost
#print axioms C16_released_exactly_once
#print axioms C16_released_exactly_once_ghost
#print axioms C16_cached_map_independent
#print axioms C16_result_history_independent
#print axioms C16_first_except_counterexample
end Report

end Zap.C16
