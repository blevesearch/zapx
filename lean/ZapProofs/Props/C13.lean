/-
  C13: the synonym section of a merge.  The merged segment's `synonyms` are, as
  a set, exactly the inputs' pairs whose document survives, under the new
  numbering (`remapAll`, see C05); a term none of whose pairs survives is not a
  term of the result; a thesaurus present in only some inputs is present in the
  result; the result does not depend on the inputs' internal synonym ids; and
  the result's thesauri are well formed again (`Spec.ThesWF`), so merges can be
  iterated.

  Model: `mergeThes` (mirror of `mergeAndPersistSynonymSection`,
  section_synonym_index.go:555-789) inside `mergeSegs`.  Hypotheses: a non-zero
  survivor count (`newDocCount segs drops ≠ 0`; zero survivors is C05_zero) and
  every input thesaurus well formed (`Spec.SegThesWF`: true of built segments by
  `C12_wellformed`, and of merge results by `C13_closed`).  Of `ThesWF` the
  content theorems use only "terms strictly ascending by key" (what the k-way
  enumerator needs, see C06 `enumerate_spec`).

  The empty LHS term.  On the pinned tree `mergeAndPersistSynonymSection` tested
  `prevTerm != nil` to recognise "there is a previous term"; an EMPTY previous
  term is a nil slice after `prevTerm = append(prevTerm[:0], term...)`, so the
  empty LHS term was never finished and its pairs folded into the next term
  (finding D4).  That was a defect and is now fixed in /repo ("fix: synonym
  merge lost the empty left-hand term": a `seenTerm` flag replaces the nil
  test).  The model's `mergeThes` (and `enumerate`, which keeps the empty key in
  its first round) handles "" like any other key, `Spec.SynWF` does not exclude
  it, and the example below merges a thesaurus containing it.

  Property theorems only; lemmas are in ZapProofs/Syn/Thes.lean and ZapProofs/Syn/Merge.lean.
-/
import ZapProofs.Syn.Merge
import ZapProofs.Props.C12

namespace Zap
open SynL

/-- Exactly the surviving pairs under the new numbering: `p` is a synonym pair
    of (thesaurus `n`, `term`) in the result iff some input `i` has the pair
    `(p.1, d)`, document `d` of input `i` survives with new number `p.2`, and
    `p.2` is not excluded. -/
theorem C13_merged (vectors : Bool) (mode : Nat) (segs : List Seg) (drops : List (Option (List Nat)))
    (hne : newDocCount segs drops ≠ 0) (hwf : ∀ s ∈ segs, Spec.SegThesWF s)
    (n : Name) (term : Bytes) (ex : Option (List Nat)) :
    ∀ p, p ∈ (mergeSegs vectors mode segs drops).1.synonyms n term ex ↔
      ∃ i, ∃ hi : i < segs.length, ∃ d syn, (syn, d) ∈ segs[i].synonyms n term none ∧
        ((remapAll segs drops 0).getD i []).getD d none = some p.2 ∧ p.1 = syn ∧ excluded ex p.2 = false := by
  intro p
  rw [mem_synonyms_ex, merged_pairs_mem vectors mode segs drops hne n term
    (fun s hs t ht => (hwf s hs n t ht).sorted)]
  constructor
  · rintro ⟨⟨i, hi, d, h1, h2⟩, hex⟩
    exact ⟨i, hi, d, p.1, h1, h2, rfl, hex⟩
  · rintro ⟨i, hi, d, syn, h1, h2, rfl, hex⟩
    exact ⟨⟨i, hi, d, h1, h2⟩, hex⟩

/-- Closure under re-merge: every thesaurus of the result is well formed. -/
theorem C13_closed (vectors : Bool) (mode : Nat) (segs : List Seg) (drops : List (Option (List Nat)))
    (hne : newDocCount segs drops ≠ 0) (hwf : ∀ s ∈ segs, Spec.SegThesWF s) :
    Spec.SegThesWF (mergeSegs vectors mode segs drops).1 :=
  merged_thes_wf vectors mode segs drops hne (fun s hs nm t ht => (hwf s hs nm t ht).sorted)

/-- Each pair is listed once; terms are listed in ascending byte order. -/
theorem C13_nodup_sorted (vectors : Bool) (mode : Nat) (segs : List Seg) (drops : List (Option (List Nat)))
    (hne : newDocCount segs drops ≠ 0) (hwf : ∀ s ∈ segs, Spec.SegThesWF s)
    (n : Name) (term : Bytes) (ex : Option (List Nat)) :
    ((mergeSegs vectors mode segs drops).1.synonyms n term ex).Nodup ∧
    SortedLt ((mergeSegs vectors mode segs drops).1.thesTerms n) :=
  ⟨synonyms_nodup _ n term ex (fun t ht => C13_closed vectors mode segs drops hne hwf n t ht),
   -- `@`: otherwise the expected type is first tested for being a function type, which unfolds `SortedLt`
   @thesTerms_sorted _ n (fun t ht => C13_closed vectors mode segs drops hne hwf n t ht)⟩

/-- The terms of the result are exactly those with a surviving pair; in
    particular a term with no surviving pair is not a term of the result. -/
theorem C13_terms_vanish (vectors : Bool) (mode : Nat) (segs : List Seg) (drops : List (Option (List Nat)))
    (hne : newDocCount segs drops ≠ 0) (hwf : ∀ s ∈ segs, Spec.SegThesWF s) (n : Name) (term : Bytes) :
    (term ∈ (mergeSegs vectors mode segs drops).1.thesTerms n ↔
      ∃ i, ∃ hi : i < segs.length, ∃ d syn nd, (syn, d) ∈ segs[i].synonyms n term none ∧
        ((remapAll segs drops 0).getD i []).getD d none = some nd) ∧
    ((∀ i (hi : i < segs.length) d syn, (syn, d) ∈ segs[i].synonyms n term none →
        ((remapAll segs drops 0).getD i []).getD d none = none) →
      term ∉ (mergeSegs vectors mode segs drops).1.thesTerms n) := by
  have hiff := merged_thesTerms_mem vectors mode segs drops hne n term (fun s hs t ht => (hwf s hs n t ht).sorted)
  refine ⟨hiff, fun hall hmem => ?_⟩
  obtain ⟨i, hi, d, syn, nd, h1, h2⟩ := hiff.1 hmem
  rw [hall i hi d syn h1] at h2
  cases h2

/-- A thesaurus is present in the result iff some input has it (so one present
    in only some inputs is preserved), and then every term with a surviving
    pair is a term of it. -/
theorem C13_thesaurus_preserved (vectors : Bool) (mode : Nat) (segs : List Seg)
    (drops : List (Option (List Nat))) (hne : newDocCount segs drops ≠ 0)
    (hwf : ∀ s ∈ segs, Spec.SegThesWF s) (n : Name) :
    (((mergeSegs vectors mode segs drops).1.thes? n).isSome = true ↔ ∃ s ∈ segs, (s.thes? n).isSome = true) ∧
    (∀ i (hi : i < segs.length) term d syn nd, (syn, d) ∈ segs[i].synonyms n term none →
        ((remapAll segs drops 0).getD i []).getD d none = some nd →
        term ∈ (mergeSegs vectors mode segs drops).1.thesTerms n ∧
        (syn, nd) ∈ (mergeSegs vectors mode segs drops).1.synonyms n term none) :=
  ⟨merged_thes?_isSome vectors mode segs drops hne n,
   fun i hi term d syn nd h1 h2 =>
    ⟨((C13_terms_vanish vectors mode segs drops hne hwf n term).1).2 ⟨i, hi, d, syn, nd, h1, h2⟩,
     (C13_merged vectors mode segs drops hne hwf n term none (syn, nd)).2 ⟨i, hi, d, syn, h1, h2, rfl, rfl⟩⟩⟩

/-- The result depends on the inputs only through their sizes and their
    `synonyms` as sets: two input lists that agree on these give the same
    merged `synonyms` (as sets). -/
theorem C13_observational (vectors : Bool) (mode : Nat) (segs segs' : List Seg)
    (drops : List (Option (List Nat)))
    (hnum : segs.map (·.numDocs) = segs'.map (·.numDocs))
    (hne : newDocCount segs drops ≠ 0)
    (hwf : ∀ s ∈ segs, Spec.SegThesWF s) (hwf' : ∀ s ∈ segs', Spec.SegThesWF s)
    (n : Name) (term : Bytes) (ex : Option (List Nat))
    (hsyn : ∀ i (hi : i < segs.length) (hi' : i < segs'.length) p,
      p ∈ segs[i].synonyms n term none ↔ p ∈ segs'[i].synonyms n term none) :
    ∀ q, q ∈ (mergeSegs vectors mode segs drops).1.synonyms n term ex ↔
      q ∈ (mergeSegs vectors mode segs' drops).1.synonyms n term ex := by
  intro q
  have hlen : segs.length = segs'.length := by simpa using congrArg List.length hnum
  have hne' : newDocCount segs' drops ≠ 0 := by
    rwa [MergeL.newDocCount_eq_sizes, ← hnum, ← hlen, ← MergeL.newDocCount_eq_sizes]
  -- the right-hand side of `C13_merged` mentions the inputs only through their sizes and `synonyms`
  rw [C13_merged vectors mode segs drops hne hwf n term ex, C13_merged vectors mode segs' drops hne' hwf' n term ex,
    MergeL.remapAll_congr hnum]
  constructor
  · rintro ⟨i, hi, d, syn, h1, h2⟩
    exact ⟨i, hlen ▸ hi, d, syn, (hsyn i hi (hlen ▸ hi) _).1 h1, h2⟩
  · rintro ⟨i, hi, d, syn, h1, h2⟩
    exact ⟨i, hlen ▸ hi, d, syn, (hsyn i (hlen ▸ hi) hi _).2 h1, h2⟩

/-- Independence of internal ids: rename the synonym ids of every input `i` and
    every thesaurus `nm` by an injective `f i nm` (table and codes consistently,
    `Spec.renameSegThes`); each renamed input is still well formed and exposes
    the same `synonyms`, and the merged `synonyms` are unchanged as sets.  In
    particular inputs that assign different ids to the same synonym term merge
    like inputs that agree. -/
theorem C13_id_independent (vectors : Bool) (mode : Nat) (segs : List Seg) (drops : List (Option (List Nat)))
    (hne : newDocCount segs drops ≠ 0) (hwf : ∀ s ∈ segs, Spec.SegThesWF s)
    (f : Nat → Name → Nat → Nat) (hinj : ∀ i nm a b, f i nm a = f i nm b → a = b)
    (n : Name) (term : Bytes) (ex : Option (List Nat)) :
    (∀ s ∈ renameAll f segs, Spec.SegThesWF s) ∧
    (∀ i (hi : i < segs.length) q,
      q ∈ (Spec.renameSegThes (f i) segs[i]).synonyms n term ex ↔ q ∈ segs[i].synonyms n term ex) ∧
    ∀ q, q ∈ (mergeSegs vectors mode (renameAll f segs) drops).1.synonyms n term ex ↔
      q ∈ (mergeSegs vectors mode segs drops).1.synonyms n term ex := by
  have hwf' : ∀ s ∈ renameAll f segs, Spec.SegThesWF s := by
    intro s hs
    obtain ⟨p, hp, rfl⟩ := List.mem_map.1 hs
    exact renameSegThes_wf (f p.2) (hinj p.2) (hwf _ (List.fst_mem_of_mem_zipIdx hp))
  refine ⟨hwf', fun i hi q => renameSegThes_synonyms (f i) (hinj i) segs[i] n term ex q, fun q => ?_⟩
  -- the renamed inputs have the same sizes and expose the same `synonyms`
  refine (C13_observational vectors mode segs (renameAll f segs) drops (renameAll_numDocs f segs) hne hwf hwf'
    n term ex (fun i hi hi' p => ?_) q).symm
  rw [renameAll_get f segs i hi, renameSegThes_synonyms (f i) (hinj i)]

/-! ### Examples: both sides computed on concrete data

Input 1 is the segment built from the batch of C12 (three documents; `th1` with
terms "", `x`, `y`; `th2` with term `x`).  Input 2 is built from a two-document
batch that defines `th1` only, lists the synonyms of `x` in another order (so it
assigns them other internal ids: `s ↦ 0, q ↦ 1` against `q ↦ 1, s ↦ 2`) and has
a term `w` of its own.  Document 2 of input 1 is deleted: the empty term of
`th1` (defined by that document only) vanishes, `th2` (input 1 only) is kept. -/

section Examples
open C12Example

private def batch2 : Batch :=
  [ { id := B "d", fields :=
        [ idf "d", { kind := .syn, name := th1, defs := [⟨B "x", [B "s", B "q"]⟩, ⟨B "w", [B "p"]⟩] } ] },
    { id := B "e", fields := [ idf "e", { kind := .syn, name := th1, defs := [⟨B "x", [B "q"]⟩] } ] } ]

private def s1 : Seg := buildSeg false 1024 batch
private def s2 : Seg := buildSeg false 1024 batch2
private def dr : List (Option (List Nat)) := [some [2]]

example : Spec.SynWF batch2 := by decide +kernel

/-- the inputs assign different internal ids to the same synonyms -/
example : (s1.thes? th1).map (·.table) = some [(0, B "p"), (1, B "q"), (2, B "s"), (3, B "z")]
    ∧ (s2.thes? th1).map (·.table) = some [(0, B "s"), (1, B "q"), (2, B "p")] := by decide +kernel

/-- hypotheses of the theorems -/
example : newDocCount [s1, s2] dr ≠ 0 := by decide +kernel
example : ∀ s ∈ [s1, s2], Spec.SegThesWF s :=
  List.forall_mem_cons.2
    ⟨C12_wellformed false 1024 batch (List.cons_ne_nil _ _) (by decide +kernel),
     List.forall_mem_singleton.2 (C12_wellformed false 1024 batch2 (List.cons_ne_nil _ _) (by decide +kernel))⟩
/-- … the same, computed, for the two thesaurus names -/
example : ∀ s ∈ [s1, s2], ∀ n ∈ [th1, th2], OptThesWF (s.thes? n) := by decide +kernel

example : remapAll [s1, s2] dr 0 = [[some 0, some 1, none], [some 2, some 3]] := by decide +kernel

/-- `C13_merged`, left side: the merged pairs of (`th1`, `x`) … -/
example : (mergeSegs false 1024 [s1, s2] dr).1.synonyms th1 (B "x") none
    = [(B "p", 0), (B "q", 0), (B "q", 2), (B "q", 3), (B "s", 2)] := by decide +kernel
/-- … right side: the inputs' pairs; document 2 of input 1 (pairs `(q, 2)`, `(s, 2)`) is deleted,
    documents 0, 1 of input 2 become 2, 3 -/
example : s1.synonyms th1 (B "x") none = [(B "p", 0), (B "q", 0), (B "q", 2), (B "s", 2)]
    ∧ s2.synonyms th1 (B "x") none = [(B "s", 0), (B "q", 0), (B "q", 1)] := by decide +kernel
/-- with the new document 2 excluded -/
example : (mergeSegs false 1024 [s1, s2] dr).1.synonyms th1 (B "x") (some [2])
    = [(B "p", 0), (B "q", 0), (B "q", 3)] := by decide +kernel

/-- `C13_terms_vanish`: the empty term had its only pair in the deleted document -/
example : s1.thesTerms th1 = [B "", B "x", B "y"] ∧ s1.synonyms th1 (B "") none = [(B "z", 2)]
    ∧ (mergeSegs false 1024 [s1, s2] dr).1.thesTerms th1 = [B "w", B "x", B "y"] := by decide +kernel
/-- … and survives (first, as the smallest key) when nothing is deleted -/
example : (mergeSegs false 1024 [s1, s2] []).1.thesTerms th1 = [B "", B "w", B "x", B "y"]
    ∧ (mergeSegs false 1024 [s1, s2] []).1.synonyms th1 (B "") none = [(B "z", 2)] := by decide +kernel

/-- `C13_thesaurus_preserved`: `th2` exists in input 1 only -/
example : s2.thes? th2 = none
    ∧ (mergeSegs false 1024 [s1, s2] dr).1.synonyms th2 (B "x") none = [(B "r", 0)]
    ∧ (mergeSegs false 1024 [s2, s1] [none, some [2]]).1.synonyms th2 (B "x") none = [(B "r", 2)] := by
  decide +kernel

/-- `C13_closed`: the result is well formed; merging it again with input 2 (deleting the new
    document 0) gives what the theorem says -/
example : ((mergeSegs false 1024 [s1, s2] dr).1.thes? th1).isSome = true
    ∧ OptThesWF ((mergeSegs false 1024 [s1, s2] dr).1.thes? th1) := by decide +kernel
example : (mergeSegs false 1024 [(mergeSegs false 1024 [s1, s2] dr).1, s2] [some [0]]).1.synonyms th1 (B "x") none
    = [(B "q", 1), (B "q", 2), (B "q", 3), (B "q", 4), (B "s", 1), (B "s", 3)] := by decide +kernel

/-- `C13_id_independent`: input 2 first, its ids renamed (`a ↦ 7 - a`): its table and codes change,
    the new ids the merge assigns change (first appearance follows the inputs' code order), the
    listing order changes — the merged pairs as a set do not -/
private def ren : Nat → Name → Nat → Nat := fun i _ a => if i = 0 then 7 - a else a
example : ((renameAll ren [s2, s1]).map (fun s => (s.thes? th1).map (·.table)))
    = [some [(7, B "s"), (6, B "q"), (5, B "p")], some [(0, B "p"), (1, B "q"), (2, B "s"), (3, B "z")]] := by
  decide +kernel
example : ((mergeSegs false 1024 [s2, s1] [none, some [2]]).1.thes? th1).map (·.table)
      = some [(0, B "p"), (1, B "s"), (2, B "q")]
    ∧ ((mergeSegs false 1024 (renameAll ren [s2, s1]) [none, some [2]]).1.thes? th1).map (·.table)
      = some [(0, B "p"), (1, B "q"), (2, B "s")] := by decide +kernel
example : (mergeSegs false 1024 [s2, s1] [none, some [2]]).1.synonyms th1 (B "x") none
      = [(B "p", 2), (B "s", 0), (B "q", 0), (B "q", 1), (B "q", 2)]
    ∧ (mergeSegs false 1024 (renameAll ren [s2, s1]) [none, some [2]]).1.synonyms th1 (B "x") none
      = [(B "p", 2), (B "q", 0), (B "q", 1), (B "q", 2), (B "s", 0)] := by decide +kernel

end Examples

end Zap

#print axioms Zap.C13_merged
#print axioms Zap.C13_closed
#print axioms Zap.C13_nodup_sorted
#print axioms Zap.C13_terms_vanish
#print axioms Zap.C13_thesaurus_preserved
#print axioms Zap.C13_observational
#print axioms Zap.C13_id_independent
