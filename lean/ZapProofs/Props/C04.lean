/-
  Property C04 (persisted and re-opened segment; footer).

  "Persist and WriteTo emit the same bytes, and the file ends with a footer carrying the
  document count, the chunk mode, format version 16 and a CRC-32 that matches all preceding
  bytes", and what `Open` (`loadConfig`) reads from that footer is what the in-memory segment
  was constructed with (`InitSegmentBase` arguments), and the body it maps is `mem`.

  Model of the bytes: `persistSegmentBaseToWriter` (build.go:95) writes `sb.mem` and then
  `persistFooter` (write.go:111) — the fields of the GENERATED table `Gen.Facts.footerWrites`,
  big-endian, through a `CountHashWriter` whose CRC is seeded with `sb.memCRC` and continues
  over every footer field written; the last field is that running CRC.  `loadConfig`
  (segment.go:206) is `decodeField` over the GENERATED table `Gen.Facts.footerReads`, and
  `s.mm[:len(s.mm)-footerSize]`.

  The content part of C04 ("answers every query exactly as the in-memory segment") is, at the
  model level, the identity: both segments denote the same `Seg` (the meaning of `mem`); it is
  tied to the code by the differential checks (`open` + full query surface, `dumpfile`, `footer`,
  `cmpfile`) of the harness, not by a theorem here.
-/
import ZapProofs.Codec.Footer

namespace Zap.C04
open Zap.Codec

/-- What `InitSegmentBase(mem, memCRC, chunkMode, numDocs, storedIndexOffset, sectionsIndexOffset)`
    records (build.go:162-174): `fieldsIndexOffset := sectionsIndexOffset`, `docValueOffset := 0`. -/
structure SegBase where
  mem : Bytes
  memCRC : Nat
  chunkMode : Nat
  numDocs : Nat
  storedIndexOffset : Nat
  fieldsIndexOffset : Nat
  sectionsIndexOffset : Nat
  docValueOffset : Nat
  deriving Repr, DecidableEq

def initSegmentBase (mem : Bytes) (memCRC chunkMode numDocs storedIdx sectionsIdx : Nat) : SegBase :=
  { mem := mem, memCRC := memCRC, chunkMode := chunkMode, numDocs := numDocs,
    storedIndexOffset := storedIdx, fieldsIndexOffset := sectionsIdx, sectionsIndexOffset := sectionsIdx,
    docValueOffset := 0 }

def valsOf (sb : SegBase) (crc : Nat) : String → Nat :=
  Footer.vals { numDocs := sb.numDocs, storedIndexOffset := sb.storedIndexOffset,
                fieldsIndexOffset := sb.fieldsIndexOffset, sectionsIndexOffset := sb.sectionsIndexOffset,
                docValueOffset := sb.docValueOffset, chunkMode := sb.chunkMode, version := Gen.Version,
                crc := crc }

def headRows : List (String × Nat) := Gen.Facts.footerWrites.dropLast

/-- `CountHashWriter.Write`, once per footer field: the running CRC after the rows `ws`. -/
def crcFields (c : Nat) (ws : List (String × Nat)) (vals : String → Nat) : Nat :=
  ws.foldl (fun c w => crcUpdate c (beBytes w.2 (vals w.1))) c

/-- `persistFooter`: every row but the last through the hashing writer (seeded with
    `crcBeforeFooter`), then the running CRC as the last 4 bytes. -/
def persistFooter (sb : SegBase) (crcBeforeFooter : Nat) : Bytes :=
  encodeFields headRows (valsOf sb 0) ++ beBytes 4 (crcFields crcBeforeFooter headRows (valsOf sb 0))

/-- `persistSegmentBaseToWriter`: `br.Write(sb.mem)`, then `persistFooter(…, sb.memCRC, br)`. -/
def persistSegmentBaseToWriter (sb : SegBase) : Bytes := sb.mem ++ persistFooter sb sb.memCRC

/-- `PersistSegmentBase(sb, path)`: the content of the file at `path` on success. -/
def Persist (sb : SegBase) : Bytes := persistSegmentBaseToWriter sb

/-- `SegmentBase.WriteTo(w)`: the bytes received by `w` on success. -/
def WriteTo (sb : SegBase) : Bytes := persistSegmentBaseToWriter sb

def footerVals (numDocs storedIdx sectionsIdx chunkMode crc : Nat) : String → Nat :=
  Footer.vals { numDocs := numDocs, storedIndexOffset := storedIdx, fieldsIndexOffset := sectionsIdx,
                sectionsIndexOffset := sectionsIdx, docValueOffset := 0, chunkMode := chunkMode,
                version := Gen.Version, crc := crc }

/-- the first `FooterSize - 4 = 48` footer bytes (everything but the CRC) -/
def footerHead (numDocs storedIdx sectionsIdx chunkMode : Nat) : Bytes :=
  encodeFields headRows (footerVals numDocs storedIdx sectionsIdx chunkMode 0)

/-- The persisted file in closed form (`persistSegmentBaseToWriter_init`): `mem`, then the footer
    whose CRC field is the CRC of `mem` continued over the first 48 footer bytes. -/
def persistBytes (mem : Bytes) (numDocs storedIdx sectionsIdx chunkMode : Nat) : Bytes :=
  mem ++ encodeFooter (footerVals numDocs storedIdx sectionsIdx chunkMode
    (crcUpdate (crc32 mem) (footerHead numDocs storedIdx sectionsIdx chunkMode)))

theorem footerWrites_split : Gen.Facts.footerWrites = headRows ++ [("crc", 4)] := rfl

theorem head_no_crc : ∀ w ∈ headRows, w.1 ≠ "crc" := by decide +kernel

theorem head_indep (f : Footer) (c : Nat) :
    encodeFields headRows (Footer.vals { f with crc := c }) = encodeFields headRows (Footer.vals f) :=
  encodeFields_congr _ _ _ fun w hw => vals_crc_irrel f c w.1 (head_no_crc w hw)

theorem encodeFooter_vals (f : Footer) (c : Nat) :
    encodeFooter (Footer.vals { f with crc := c }) =
      encodeFields headRows (Footer.vals f) ++ beBytes 4 c := by
  unfold encodeFooter
  rw [footerWrites_split, encodeFields_append, head_indep, encodeFields_cons, (vals_at _).2.2.2.2.2.2.2]
  rfl

theorem crcFields_eq (ws : List (String × Nat)) (vals : String → Nat) :
    ∀ c, crcFields c ws vals = crcUpdate c (encodeFields ws vals) := by
  induction ws with
  | nil => intro c; exact (crcUpdate_nil c).symm
  | cons w ws ih =>
    intro c
    rw [encodeFields_cons, crcUpdate_append']
    exact ih _

theorem headRows_length (vals : String → Nat) : (encodeFields headRows vals).length = Gen.FooterSize - 4 := by
  rw [encodeFields_length]
  rfl

theorem persistFooter_eq (sb : SegBase) (c : Nat) :
    persistFooter sb c =
      encodeFooter (valsOf sb (crcUpdate c (encodeFields headRows (valsOf sb 0)))) := by
  rw [persistFooter, crcFields_eq]
  exact (encodeFooter_vals _ _).symm

/-- `memCRC = crc32 mem` is what new.go:74 passes: `InitSegmentBase(br.Bytes(), s.w.Sum32(), …)`. -/
theorem persistSegmentBaseToWriter_init (mem : Bytes) (numDocs storedIdx sectionsIdx chunkMode : Nat) :
    persistSegmentBaseToWriter (initSegmentBase mem (crc32 mem) chunkMode numDocs storedIdx sectionsIdx) =
      persistBytes mem numDocs storedIdx sectionsIdx chunkMode := by
  rw [persistSegmentBaseToWriter, persistFooter_eq]
  rfl

theorem persistBytes_eq (mem : Bytes) (numDocs storedIdx sectionsIdx chunkMode : Nat) :
    persistBytes mem numDocs storedIdx sectionsIdx chunkMode =
      (mem ++ footerHead numDocs storedIdx sectionsIdx chunkMode) ++
        beBytes 4 (crc32 (mem ++ footerHead numDocs storedIdx sectionsIdx chunkMode)) := by
  rw [persistBytes, crc32_append, List.append_assoc]
  exact congrArg (mem ++ ·) (encodeFooter_vals
    { numDocs := numDocs, storedIndexOffset := storedIdx, fieldsIndexOffset := sectionsIdx,
      sectionsIndexOffset := sectionsIdx, docValueOffset := 0, chunkMode := chunkMode,
      version := Gen.Version, crc := 0 } _)

theorem decode_persist (mem : Bytes) (numDocs storedIdx sectionsIdx chunkMode : Nat)
    (hmem : ∀ x ∈ mem, x < 256) (h1 : numDocs < 2 ^ 64) (h2 : storedIdx < 2 ^ 64)
    (h3 : sectionsIdx < 2 ^ 64) (h4 : chunkMode < 2 ^ 32)
    (r : String × Nat × Nat) (hr : r ∈ Gen.Facts.footerReads) :
    decodeField (persistBytes mem numDocs storedIdx sectionsIdx chunkMode) r.1 =
      some (footerVals numDocs storedIdx sectionsIdx chunkMode
        (crcUpdate (crc32 mem) (footerHead numDocs storedIdx sectionsIdx chunkMode)) (writeName r.1)) :=
  footer_roundtrip _ _ _ (List.mem_map_of_mem hr)
    (vals_fit _ h1 h2 h3 h3 (show 0 < 2 ^ 64 by decide) h4 (show Gen.Version < 2 ^ 32 by decide)
      (crcUpdate_lt _ _ (crcUpdate_lt 0 mem (by decide) hmem) (encodeFields_bytes _ _)))

/-- C04 (footer fields): what `loadConfig` decodes from the persisted file is what
    `InitSegmentBase` was given: document count, chunk mode, stored-index and sections-index
    offsets (the latter also as `fieldsIndexOffset`), `docValueOffset = 0`, version 16.
    Hypotheses: the values fit their Go types (`uint64` / `uint32`), `mem` is a byte string. -/
theorem open_recovers_init_args (mem : Bytes) (numDocs storedIdx sectionsIdx chunkMode : Nat)
    (hmem : ∀ x ∈ mem, x < 256) (h1 : numDocs < 2 ^ 64) (h2 : storedIdx < 2 ^ 64)
    (h3 : sectionsIdx < 2 ^ 64) (h4 : chunkMode < 2 ^ 32) :
    decodeField (persistBytes mem numDocs storedIdx sectionsIdx chunkMode) "numDocs" = some numDocs ∧
    decodeField (persistBytes mem numDocs storedIdx sectionsIdx chunkMode) "chunkMode" = some chunkMode ∧
    decodeField (persistBytes mem numDocs storedIdx sectionsIdx chunkMode) "storedIndexOffset" = some storedIdx ∧
    decodeField (persistBytes mem numDocs storedIdx sectionsIdx chunkMode) "sectionsIndexOffset" = some sectionsIdx ∧
    decodeField (persistBytes mem numDocs storedIdx sectionsIdx chunkMode) "fieldsIndexOffset" = some sectionsIdx ∧
    decodeField (persistBytes mem numDocs storedIdx sectionsIdx chunkMode) "docValueOffset" = some 0 ∧
    decodeField (persistBytes mem numDocs storedIdx sectionsIdx chunkMode) "version" = some 16 := by
  have hd := decode_persist mem numDocs storedIdx sectionsIdx chunkMode hmem h1 h2 h3 h4
  obtain ⟨e1, e2, e3, e4, e5, e6, e7, -⟩ := vals_at
    { numDocs := numDocs, storedIndexOffset := storedIdx, fieldsIndexOffset := sectionsIdx,
      sectionsIndexOffset := sectionsIdx, docValueOffset := 0, chunkMode := chunkMode,
      version := Gen.Version,
      crc := crcUpdate (crc32 mem) (footerHead numDocs storedIdx sectionsIdx chunkMode) }
  -- the rows of `footerReads`, by position (no comparison of names: cf. `vals_at`)
  exact ⟨(hd ("numDocs", 52, 8) (List.mem_of_getElem? (i := 7) rfl)).trans (congrArg some e1),
    (hd ("chunkMode", 12, 4) (List.mem_of_getElem? (i := 2) rfl)).trans (congrArg some e6),
    (hd ("storedIndexOffset", 44, 8) (List.mem_of_getElem? (i := 6) rfl)).trans (congrArg some e2),
    (hd ("sectionsIndexOffset", 28, 8) (List.mem_of_getElem? (i := 4) rfl)).trans (congrArg some e4),
    (hd ("fieldsIndexOffset", 36, 8) (List.mem_of_getElem? (i := 5) rfl)).trans (congrArg some e3),
    (hd ("docValueOffset", 20, 8) (List.mem_of_getElem? (i := 3) rfl)).trans (congrArg some e5),
    (hd ("version", 8, 4) (List.mem_of_getElem? (i := 1) rfl)).trans (congrArg some e7)⟩

/-- C04 (CRC): the footer's CRC field is the CRC-32 of all bytes of the file except the last 4. -/
theorem footer_crc_is_crc_of_all_preceding_bytes (mem : Bytes) (numDocs storedIdx sectionsIdx chunkMode : Nat)
    (hmem : ∀ x ∈ mem, x < 256) (h1 : numDocs < 2 ^ 64) (h2 : storedIdx < 2 ^ 64)
    (h3 : sectionsIdx < 2 ^ 64) (h4 : chunkMode < 2 ^ 32) :
    decodeField (persistBytes mem numDocs storedIdx sectionsIdx chunkMode) "crc" =
      some (crc32 ((persistBytes mem numDocs storedIdx sectionsIdx chunkMode).take
        ((persistBytes mem numDocs storedIdx sectionsIdx chunkMode).length - 4))) := by
  have htake : (persistBytes mem numDocs storedIdx sectionsIdx chunkMode).take
      ((persistBytes mem numDocs storedIdx sectionsIdx chunkMode).length - 4) =
      mem ++ footerHead numDocs storedIdx sectionsIdx chunkMode := by
    rw [persistBytes_eq]
    generalize mem ++ footerHead numDocs storedIdx sectionsIdx chunkMode = pre
    rw [List.length_append, beBytes_length, Nat.add_sub_cancel, List.take_left]
  rw [htake, crc32_append]
  exact (decode_persist mem numDocs storedIdx sectionsIdx chunkMode hmem h1 h2 h3 h4 ("crc", 4, 4)
    (List.Mem.head _)).trans (congrArg some (vals_at _).2.2.2.2.2.2.2)

/-- the same for any seed: with `memCRC` as given to `InitSegmentBase`, the CRC field continues
    `memCRC` over the 48 footer bytes before it (it is the CRC of all preceding bytes when
    `memCRC = crc32 mem`: new.go:74 passes `s.w.Sum32()` to `InitSegmentBase`; merge.go:86 hands
    `cr.Sum32()` straight to `persistFooter`). -/
theorem persistFooter_crc (sb : SegBase) :
    persistSegmentBaseToWriter sb =
      (sb.mem ++ encodeFields headRows (valsOf sb 0)) ++
        beBytes 4 (crcUpdate sb.memCRC (encodeFields headRows (valsOf sb 0))) := by
  rw [persistSegmentBaseToWriter, persistFooter, crcFields_eq, List.append_assoc]

theorem persistBytes_length (mem : Bytes) (numDocs storedIdx sectionsIdx chunkMode : Nat) :
    (persistBytes mem numDocs storedIdx sectionsIdx chunkMode).length = mem.length + Gen.FooterSize := by
  rw [persistBytes, List.length_append, footer_length]

/-- C04 (body): `s.mm[:len(s.mm)-footerSize]` of the persisted file is `mem` — the re-opened
    segment reads every section from the very bytes the in-memory segment reads them from. -/
theorem mem_recovered (mem : Bytes) (numDocs storedIdx sectionsIdx chunkMode : Nat) :
    (persistBytes mem numDocs storedIdx sectionsIdx chunkMode).take
      ((persistBytes mem numDocs storedIdx sectionsIdx chunkMode).length - Gen.FooterSize) = mem := by
  rw [persistBytes_length, Nat.add_sub_cancel, persistBytes, List.take_left]

/-- … and the file ends with exactly `FooterSize = 52` footer bytes. -/
theorem footer_recovered (mem : Bytes) (numDocs storedIdx sectionsIdx chunkMode : Nat) :
    ((persistBytes mem numDocs storedIdx sectionsIdx chunkMode).drop mem.length).length = Gen.FooterSize := by
  rw [List.length_drop, persistBytes_length, Nat.add_sub_cancel_left]

/-! ### Persist and WriteTo

Both are `persistSegmentBaseToWriter` on the same segment base: build.go:48-63
(`PersistSegmentBase` opens the file and calls `persistSegmentBaseToWriter(sb, f)`) and
build.go:38-45 (`WriteTo` calls `persistSegmentBaseToWriter(sb, w)`).  The extracted call facts
below witness the `PersistSegmentBase` side and the shape of `persistSegmentBaseToWriter`
(`br.Write(sb.mem)`, `persistFooter`, `Flush`, in this order, each error returned) and of
`persistFooter` (one checked `binary.Write` per row of `footerWrites`).  `WriteTo` is not among
the driver functions `tools/gofacts` extracts error facts for, so that call is witnessed only
by reading build.go:43; the byte equality of the two outputs itself is tied to the real code
by the differential check `cmpfile` (harness: `bytes.Equal(file written by Persist, buffer
filled by WriteTo)`, expected `same=1` by the driver for every script). -/

theorem persist_eq_writeTo (sb : SegBase) : Persist sb = WriteTo sb := rfl

theorem persist_is_persistBytes (mem : Bytes) (numDocs storedIdx sectionsIdx chunkMode : Nat) :
    Persist (initSegmentBase mem (crc32 mem) chunkMode numDocs storedIdx sectionsIdx) =
      persistBytes mem numDocs storedIdx sectionsIdx chunkMode ∧
    WriteTo (initSegmentBase mem (crc32 mem) chunkMode numDocs storedIdx sectionsIdx) =
      persistBytes mem numDocs storedIdx sectionsIdx chunkMode :=
  ⟨persistSegmentBaseToWriter_init mem numDocs storedIdx sectionsIdx chunkMode,
   persistSegmentBaseToWriter_init mem numDocs storedIdx sectionsIdx chunkMode⟩

/-- extracted fact: `PersistSegmentBase` calls `persistSegmentBaseToWriter` (and cleans up on its error) -/
theorem persistSegmentBase_calls_toWriter :
    Gen.Facts.errFacts.any (fun e => e.fn == "PersistSegmentBase" &&
      e.callee == "persistSegmentBaseToWriter" && e.disp == .cleanupReturned) = true := by decide +kernel

/-- extracted fact: `persistSegmentBaseToWriter` is body write, footer, flush — all checked -/
theorem toWriter_shape :
    (Gen.Facts.errFacts.filter (fun e => e.fn == "persistSegmentBaseToWriter")).map (fun e => (e.callee, e.disp)) =
      [("br.Write", .returned), ("persistFooter", .returned), ("br.w.Flush", .returned)] := by decide +kernel

/-- extracted fact: `persistFooter` performs one checked `binary.Write` per row of `footerWrites` -/
theorem persistFooter_shape :
    (Gen.Facts.errFacts.filter (fun e => e.fn == "persistFooter")).map (fun e => (e.callee, e.disp)) =
      List.replicate Gen.Facts.footerWrites.length ("binary.Write", .returned) := by decide +kernel

namespace Example

/-- "123456789" -/
def mem : Bytes := [49, 50, 51, 52, 53, 54, 55, 56, 57]
def file : Bytes := persistBytes mem 3 2 5 1026

/-- the file, byte for byte: body, then numDocs=3, stored=2, fields=5, sections=5, dv=0,
    chunkMode=1026 (0x402), version=16, CRC -/
example : file.take 57 =
    [49, 50, 51, 52, 53, 54, 55, 56, 57,
     0, 0, 0, 0, 0, 0, 0, 3,  0, 0, 0, 0, 0, 0, 0, 2,  0, 0, 0, 0, 0, 0, 0, 5,  0, 0, 0, 0, 0, 0, 0, 5,
     0, 0, 0, 0, 0, 0, 0, 0,  0, 0, 4, 2,  0, 0, 0, 16] ∧ file.length = 61 := by decide +kernel

/-- footer fields, CRC and body by evaluation alone -/
example :
    decodeField file "numDocs" = some 3 ∧ decodeField file "chunkMode" = some 1026 ∧
    decodeField file "storedIndexOffset" = some 2 ∧ decodeField file "sectionsIndexOffset" = some 5 ∧
    decodeField file "fieldsIndexOffset" = some 5 ∧ decodeField file "docValueOffset" = some 0 ∧
    decodeField file "version" = some 16 ∧
    decodeField file "crc" = some (crc32 (file.take (file.length - 4))) ∧
    file.take (file.length - Gen.FooterSize) = mem := by decide +kernel

/-- the same through the theorems (hypotheses satisfiable) -/
example : decodeField file "numDocs" = some 3 :=
  (open_recovers_init_args mem 3 2 5 1026 (by decide) (by decide) (by decide) (by decide) (by decide)).1

example : Persist (initSegmentBase mem (crc32 mem) 1026 3 2 5) = file ∧
    WriteTo (initSegmentBase mem (crc32 mem) 1026 3 2 5) = file :=
  persist_is_persistBytes mem 3 2 5 1026

/-- a wrong seed is visible: with `memCRC = 0` the CRC field is not the CRC of the file -/
example : decodeField (persistSegmentBaseToWriter (initSegmentBase mem 0 1026 3 2 5)) "crc" ≠
    some (crc32 ((persistSegmentBaseToWriter (initSegmentBase mem 0 1026 3 2 5)).take 57)) := by
  decide +kernel

end Example

end Zap.C04

#print axioms Zap.C04.open_recovers_init_args
#print axioms Zap.C04.footer_crc_is_crc_of_all_preceding_bytes
#print axioms Zap.C04.persistFooter_crc
#print axioms Zap.C04.mem_recovered
#print axioms Zap.C04.footer_recovered
#print axioms Zap.C04.persist_eq_writeTo
#print axioms Zap.C04.persist_is_persistBytes
#print axioms Zap.C04.persistSegmentBaseToWriter_init
#print axioms Zap.C04.persistSegmentBase_calls_toWriter
#print axioms Zap.C04.toWriter_shape
#print axioms Zap.C04.persistFooter_shape
