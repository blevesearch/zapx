/-
  Layout's OWN posting decoders (`Layout.decFreq`, `Layout.decLocs`, `Layout.readChunks`,
  `Layout.walkChunks`, over `ByteArray` + cursor, written with `for` loops) accept whatever their
  list-level twins of ZapModel/Writer.lean accept, with the same result ("simulation": twin =
  some x → Layout = ok x, for EVERY byte array); for `decFreq` the two sides are shown equal
  (`view … = twin …`), which also covers rejection.
-/
import ZapProofs.Writer.Bytes
import ZapProofs.Writer.Walk
import ZapProofs.Writer.LayoutDefs
import ZapProofs.Codec.Bits

namespace Zap.Writer.LP
open Zap.Layout Zap.Writer.BA Zap.Writer.Walk Zap.Writer.LayoutDefs

theorem decodeFreqHasLocs_eq (v : Nat) : Gen.decodeFreqHasLocs v = (v / 2, v % 2 == 1) := by
  rw [Codec.decodeFreqHasLocs_eq]
  rcases Nat.mod_two_eq_zero_or_one v with h | h <;> simp [h]

def toItem (d : Nat) (x : Nat × Nat × Bool) : FreqItem :=
  { doc := d, freq := x.1, norm := x.2.1, hasLocs := x.2.2 }

theorem view_decFreq (b : ByteArray) (d cur lim : Nat) :
    view b lim (decFreq b d cur lim)
      = (decFreqL d (region b cur lim)).map fun x => (toItem d x.1, x.2) := by
  unfold decFreq decFreqL
  rw [← view_uvLim]
  rcases h1 : uvLim b cur lim with e | ⟨v, p⟩
  · rfl
  have hp := (uvLim_le h1).2.1
  simp only [view_ok _ hp, decodeFreqHasLocs_eq, bind, Except.bind]
  by_cases h0 : v / 2 ≠ 0
  · rw [if_pos h0, if_pos h0, ← view_uvLim]
    rcases h2 : uvLim b p lim with e | ⟨nb, p'⟩
    · rfl
    · rw [view_ok _ (uvLim_le h2).2.1]
      exact view_ok _ (uvLim_le h2).2.1
  · rw [if_neg h0, if_neg h0]
    exact view_ok _ hp

/-- The array decoder `decA` (document, cursor, limit) accepts what the list decoder `decL` accepts on
    the bytes between cursor and limit, and leaves the same bytes; `conv` takes the result of `decL`
    to that of `decA`. -/
def Sim {αL αA : Type} (b : ByteArray) (decL : Nat → Bytes → Option (αL × Bytes))
    (decA : Nat → Nat → Nat → R (αA × Nat)) (conv : Nat → αL → αA) : Prop :=
  ∀ d cur lim a rest, decL d (region b cur lim) = some (a, rest) →
    view b lim (decA d cur lim) = some (conv d a, rest)

theorem decFreq_sim (b : ByteArray) : Sim b decFreqL (decFreq b) toItem := by
  intro d cur lim a rest hd
  rw [view_decFreq, hd]
  rfl

/-- The array-position loop of `decLocs` (any `for _ in [0:n]` that reads one uvarint per round
    and pushes it) against `readN64`. -/
theorem loop_readN (b : ByteArray) (fin : Nat)
    (body : Nat × Array Nat → R (ForInStep (Nat × Array Nat)))
    (hstep : ∀ q aps a q', uvLim b q fin = .ok (a, q') → body (q, aps) = .ok (.yield (q', aps.push a))) :
    ∀ (n q : Nat) (aps : Array Nat) (vs : List Nat) (r' : Bytes), q ≤ fin →
      readN64 n (region b q fin) = some (vs, r') →
      ∃ q', loopN body n (q, aps) = .ok (q', aps ++ vs.toArray) ∧ r' = region b q' fin ∧ q' ≤ fin := by
  intro n
  induction n with
  | zero =>
    intro q aps vs r' hq h
    cases h
    exact ⟨q, by simp [loopN, pure, Except.pure], rfl, hq⟩
  | succ n ih =>
    intro q aps vs r' hq h
    obtain ⟨v, ws, r, rfl, u1, h2⟩ := readN64_succ_some n _ vs r' h
    obtain ⟨q1, e1, rfl, _, e4, _⟩ := uvLim_sim b q fin v r u1
    obtain ⟨q', f1, f2, f3⟩ := ih q1 (aps.push v) ws r' e4 h2
    refine ⟨q', ?_, f2, f3⟩
    simp only [loopN, hstep q aps v q1 e1]
    rw [f1]
    simp

/-- The outer loop of `decLocs` against `parseLocs`. -/
theorem loop_parseLocs (b : ByteArray) (fin nb : Nat) (hfin : fin ≤ b.size)
    (body : Nat × Array MLoc → R (ForInStep (Nat × Array MLoc)))
    (hdone : ∀ p out, p ≥ fin → body (p, out) = .ok (.done (p, out)))
    (hstep : ∀ p out l r', p < fin → readLoc nb (region b p fin) = some (l, r') →
      ∃ p', body (p, out) = .ok (.yield (p', out.push l)) ∧ r' = region b p' fin ∧ p' ≤ fin)
    (fuel p : Nat) (out : Array MLoc) (ls : List MLoc) (hp : p ≤ fin) :
      parseLocs nb fuel (region b p fin) = some ls →
      loopN body fuel (p, out) = .ok (fin, out ++ ls.toArray) := by
  generalize hbs : region b p fin = bs
  fun_induction parseLocs nb fuel bs generalizing p out ls with
  | case1 | case3 fuel =>
    intro h
    cases h
    obtain rfl : p = fin := Nat.le_antisymm hp ((region_eq_nil_iff b p fin hfin).mp hbs)
    simp [loopN, hdone p out (Nat.le_refl _), pure, Except.pure]
  | case2 | case4 =>
    intro h
    cases h
  | case5 fuel bs hne l r h1 ih =>
    intro h
    obtain ⟨ls', h2, rfl⟩ := Option.map_eq_some_iff.mp h
    have hlt : p < fin := Nat.lt_of_not_le fun hh => hne (hbs ▸ (region_eq_nil_iff b p fin hfin).mpr hh)
    obtain ⟨p', e1, e2, e3⟩ := hstep p out l r hlt (hbs ▸ h1)
    simp only [loopN, e1]
    rw [ih p' (out.push l) ls' e3 e2.symm h2]
    simp

theorem decLocs_sim (b : ByteArray) : Sim b decLocsL (decLocs b) fun _ ls => ls := by
  intro d cur lim ls rest h
  obtain ⟨nbytes, r, h1, hlen, h2, rfl⟩ := decLocsL_some h
  obtain ⟨p0, e1, rfl, e3, e4, e5⟩ := uvLim_sim b cur lim nbytes r h1
  rw [region_length] at hlen
  obtain ⟨hfl, hfs⟩ : p0 + nbytes ≤ lim ∧ p0 + nbytes ≤ b.size :=
    Nat.le_min.mp (Nat.add_le_of_le_sub' (Nat.le_min.mpr ⟨e4, e5⟩) hlen)
  rw [region_take b p0 lim nbytes hfl] at h2
  rw [region_drop, ← view_ok _ hfl]
  apply congrArg
  unfold decLocs
  rw [e1]
  show (if p0 + nbytes > lim then _ else _) = _
  rw [if_neg (Nat.not_lt.mpr hfl), forIn_range_eq,
    loop_parseLocs b (p0 + nbytes) nbytes hfs _ ?hdone ?hstep nbytes p0 #[] ls (Nat.le_add_right _ _) h2]
  · simp [bind, Except.bind, pure, Except.pure]
  case hdone =>
    intro p out hp
    exact if_pos hp
  case hstep =>
    intro p out l r' hp hr
    obtain ⟨fid, pos, st, en, nap, aps, r1, r2, r3, r4, r5, u1, u2, u3, u4, u5, hn, ha, rfl⟩ :=
      readLoc_some _ _ _ _ hr
    obtain ⟨p1, a1, rfl, _, _, _⟩ := uvLim_sim b p _ fid r1 u1
    obtain ⟨p2, a2, rfl, _, _, _⟩ := uvLim_sim b p1 _ pos r2 u2
    obtain ⟨p3, a3, rfl, _, _, _⟩ := uvLim_sim b p2 _ st r3 u3
    obtain ⟨p4, a4, rfl, _, _, _⟩ := uvLim_sim b p3 _ en r4 u4
    obtain ⟨p5, a5, rfl, _, hp5, _⟩ := uvLim_sim b p4 _ nap r5 u5
    simp only [if_neg (Nat.not_le.mpr hp), a1, a2, a3, a4, a5, if_neg hn, bind, Except.bind]
    rw [forIn_range_eq]
    generalize hL : loopN _ nap (p5, #[]) = L
    obtain ⟨q', rfl, rfl, hq'⟩ : ∃ q', L = .ok (q', #[] ++ aps.toArray) ∧ r' = region b q' (p0 + nbytes) ∧
        q' ≤ p0 + nbytes := by
      rw [← hL]
      refine loop_readN b (p0 + nbytes) _ ?_ nap p5 #[] aps r' hp5 ha
      intro q aps a q' hu
      rw [hu]
      rfl
    exact ⟨q', by simp [pure, Except.pure], rfl, hq'⟩

def chunksOf (offs : List Nat) (data : Nat) : Chunks :=
  { n := offs.length, offs := offs.toArray, data := data }

theorem chunksOf_start (offs : List Nat) (p k : Nat) : (chunksOf offs p).start k = cstart offs k := by
  simp only [chunksOf, Chunks.start, cstart, Codec.chunkBoundary, List.getElem!_toArray,
    List.getElem!_eq_getElem?_getD, List.getD_eq_getElem?_getD, Nat.default_eq_zero]

theorem chunksOf_stop (offs : List Nat) (p k : Nat) : (chunksOf offs p).stop k = cstop offs k := by
  simp only [chunksOf, Chunks.stop, cstop, Codec.chunkBoundary, List.getElem!_toArray,
    List.getElem!_eq_getElem?_getD, List.getD_eq_getElem?_getD, Nat.default_eq_zero]

theorem chunksOf_total (offs : List Nat) (p : Nat) : (chunksOf offs p).total = offs.getLastD 0 := by
  cases offs with
  | nil => rfl
  | cons x xs => simp [chunksOf, Chunks.total, List.getLastD_eq_getLast?, List.getLast?_eq_getElem?]

theorem readN64_length (n : Nat) : ∀ (bs : Bytes) (vs : List Nat) (r : Bytes),
    readN64 n bs = some (vs, r) → vs.length = n := by
  induction n with
  | zero => intro bs vs r h; simp [readN64] at h; simp [h.1.symm]
  | succ n ih =>
    intro bs vs r h
    obtain ⟨v, ws, r1, rfl, _, h2⟩ := readN64_succ_some n bs vs r h
    simp [ih _ _ _ h2]

/-- The loop of `readChunks` against `readN64`: the state is (cursor, offsets, previous offset). -/
theorem loop_offs (b : ByteArray) (body : Nat × Array Nat × Nat → R (ForInStep (Nat × Array Nat × Nat)))
    (hstep : ∀ p acc prev o p', uv b p = .ok (o, p') → ¬ o < prev →
      body (p, acc, prev) = .ok (.yield (p', acc.push o, o))) :
    ∀ (n p : Nat) (acc : Array Nat) (prev : Nat) (vs : List Nat) (r' : Bytes), p ≤ b.size →
      readN64 n ((ofBA b).drop p) = some (vs, r') → nondec (prev :: vs) = true →
      ∃ p', loopN body n (p, acc, prev) = .ok (p', acc ++ vs.toArray, vs.getLastD prev) ∧
        r' = (ofBA b).drop p' ∧ p + n ≤ p' ∧ p' ≤ b.size := by
  intro n
  induction n with
  | zero =>
    intro p acc prev vs r' hp h _
    simp only [readN64, Option.some.injEq, Prod.mk.injEq] at h
    obtain ⟨rfl, rfl⟩ := h
    exact ⟨p, by simp [loopN, pure, Except.pure], rfl, Nat.le_refl _, hp⟩
  | succ n ih =>
    intro p acc prev vs r' hp h hnd
    obtain ⟨v, ws, r, rfl, u1, h2⟩ := readN64_succ_some n _ vs r' h
    obtain ⟨p1, e1, rfl, e3, e4⟩ := uv_sim b p v r u1
    rw [nondec_cons] at hnd
    simp only [Bool.and_eq_true, decide_eq_true_eq] at hnd
    obtain ⟨p', f1, f2, f3, f4⟩ := ih p1 (acc.push v) v ws r' e4 h2 hnd.2
    have hl : (v :: ws).getLastD prev = ws.getLastD v := by cases ws <;> simp [List.getLastD]
    refine ⟨p', ?_, f2, by omega, f4⟩
    simp only [loopN, hstep p acc prev v p1 e1 (Nat.not_lt.mpr hnd.1)]
    rw [f1, hl]
    simp

theorem readChunks_sim (what : String) (b : ByteArray) (pos : Nat) (offs : List Nat) (data : Bytes)
    (h : readChunksL ((ofBA b).drop pos) = some (offs, data)) :
    ∃ p, readChunks what b pos = .ok (chunksOf offs p) ∧ data = (ofBA b).drop p ∧
      p + offs.getLastD 0 ≤ b.size := by
  obtain ⟨n, r, h1, h2, hnd, hlen⟩ := readChunksL_some h
  obtain ⟨p0, e1, rfl, _, e4⟩ := uv_sim b pos n r h1
  have hn := readN64_length n _ _ _ h2
  have hnd' : nondec (0 :: offs) = true := by
    rw [nondec_cons]
    cases offs with
    | nil => rfl
    | cons x xs => simpa using hnd
  unfold readChunks
  simp only [e1, bind, Except.bind]
  rw [forIn_range_eq]
  generalize hL : loopN _ n (p0, Array.mkEmpty n, 0) = L
  obtain ⟨p, rfl, g1, g2, g3⟩ : ∃ p, L = .ok (p, Array.mkEmpty n ++ offs.toArray, offs.getLastD 0) ∧
      data = (ofBA b).drop p ∧ p0 + n ≤ p ∧ p ≤ b.size := by
    rw [← hL]
    refine loop_offs b _ ?_ n p0 _ 0 offs data e4 h2 hnd'
    intro p acc prev o p' hu hlt
    simp only [hu, if_neg hlt, pure, Except.pure]
  have hfit : p + offs.getLastD 0 ≤ b.size := by
    rw [g1, List.length_drop, ofBA_length] at hlen
    exact Nat.add_le_of_le_sub' g3 hlen
  refine ⟨p, ?_, g1, hfit⟩
  rw [if_neg (Nat.not_lt.mpr (Nat.le_trans (Nat.le_add_left n p0) (Nat.le_trans g2 g3)))]
  simp only [pure, Except.pure]
  rw [if_neg (Nat.not_lt.mpr hfit)]
  simp [chunksOf, hn]

theorem chunkBytes_region (b : ByteArray) (offs : List Nat) (p c : Nat) :
    chunkBytes offs ((ofBA b).drop p) c = region b (p + cstart offs c) (p + cstop offs c) := by
  unfold chunkBytes region
  rw [List.drop_drop, List.drop_take, Nat.add_sub_add_left]

section Walk
variable {αL αA : Type} {b : ByteArray} {decL : Nat → Bytes → Option (αL × Bytes)}
  {decA : Nat → Nat → Nat → R (αA × Nat)} {conv : Nat → αL → αA}

/-- `Seek offs p c ci cur lim ci2 cur2 lim2`: standing in chunk `ci` with cursor `cur` and limit `lim`,
    `walkChunks` reads the item of a document of chunk `c` in chunk `ci2` between `cur2` and `lim2`:
    where it stands, or, chunk `ci` used up and the chunks in between empty, at the start of chunk
    `c` (`p`: where the chunk data begin). -/
inductive Seek (offs : List Nat) (p c : Nat) : Nat → Nat → Nat → Nat → Nat → Nat → Prop
  | stay (cur lim : Nat) : Seek offs p c c cur lim c cur lim
  | jump (ci lim : Nat) : c ≠ ci → ¬ c < ci → cstart offs c = cstop offs ci →
      Seek offs p c ci lim lim c (p + cstart offs c) (p + cstop offs c)

/-- The loop of `walkChunks` against `walkL`: the state is (chunk, cursor, limit, items). -/
theorem walk_loop (offs : List Nat) (p cs : Nat)
    (hnd : nondec offs = true) (htot : p + offs.getLastD 0 ≤ b.size) (hsim : Sim b decL decA conv)
    (body : Nat → Nat × Nat × Nat × Array αA → R (ForInStep (Nat × Nat × Nat × Array αA)))
    (hstep : ∀ d ci cur lim out ci2 cur2 lim2 a cur', ¬ d / cs ≥ offs.length →
      Seek offs p (d / cs) ci cur lim ci2 cur2 lim2 → decA d cur2 lim2 = .ok (a, cur') →
      body d (ci, cur, lim, out) = .ok (.yield (ci2, cur', lim2, out.push a))) :
    ∀ (docs : List Nat) (ci cur lim : Nat) (out : Array αA) (as : List αL),
      cur ≤ lim → lim ≤ b.size →
      walkL offs ((ofBA b).drop p) cs decL docs ci (region b cur lim) = some as →
      ∃ ci' lim', forIn docs (ci, cur, lim, out) body
          = .ok (ci', lim', lim', out ++ (List.zipWith conv docs as).toArray) ∧
        (offs.length = 0 ∨ cstop offs (offs.length - 1) = cstop offs ci') := by
  intro docs
  induction docs with
  | nil =>
    intro ci cur lim out as hcl hls h
    obtain ⟨rfl, hnil, hend⟩ := walkL_nil_some h
    obtain rfl : cur = lim := Nat.le_antisymm hcl ((region_eq_nil_iff b cur lim hls).mp hnil)
    exact ⟨ci, cur, by simp [pure, Except.pure], hend⟩
  | cons d ds ih =>
    intro ci cur lim out as hcl hls h
    obtain ⟨a, as', rest, ci2, cur2, rfl, hn, hcase, hd, hw⟩ := walkL_cons_some h
    obtain ⟨cA, lA, rfl, hcl2, hls2, hseek⟩ : ∃ cA lA, cur2 = region b cA lA ∧ cA ≤ lA ∧ lA ≤ b.size ∧
        Seek offs p (d / cs) ci cur lim ci2 cA lA := by
      rcases hcase with ⟨rfl, rfl, rfl⟩ | ⟨hc, h1, h2, h3, rfl, rfl⟩
      · exact ⟨cur, lim, rfl, hcl, hls, .stay cur lim⟩
      · obtain rfl : cur = lim := Nat.le_antisymm hcl ((region_eq_nil_iff b cur lim hls).mp h2)
        have hle := cstart_le_cstop offs hnd (d / cs) (Nat.lt_of_not_le hn)
        exact ⟨_, _, chunkBytes_region b offs p _, Nat.add_le_add_left hle.1 p,
          Nat.le_trans (Nat.add_le_add_left hle.2 p) htot, .jump ci cur hc h1 h3⟩
    obtain ⟨cur', e1, e4, rfl⟩ := view_eq_some (hsim d cA lA a rest hd)
    obtain ⟨ci', lim', g1, g2⟩ := ih ci2 cur' lA (out.push (conv d a)) as' e4 hls2 hw
    refine ⟨ci', lim', ?_, g2⟩
    rw [List.forIn_cons, hstep d ci cur lim out ci2 cA lA (conv d a) cur' hn hseek e1]
    simp only [bind, Except.bind]
    rw [g1]
    simp

theorem walkChunks_sim (what : String) (offs : List Nat) (p cs : Nat)
    (hnd : nondec offs = true) (htot : p + offs.getLastD 0 ≤ b.size) (hcs : cs ≠ 0)
    (hsim : Sim b decL decA conv) (docs : List Nat) (as : List αL)
    (h : walkL offs ((ofBA b).drop p) cs decL docs 0 (chunkBytes offs ((ofBA b).drop p) 0) = some as) :
    walkChunks what (chunksOf offs p) cs docs decA = .ok (List.zipWith conv docs as) := by
  rw [chunkBytes_region] at h
  have hs0 : cstart offs 0 = 0 := rfl
  rw [hs0, Nat.add_zero] at h
  have hinit : (if (chunksOf offs p).n = 0 then 0 else (chunksOf offs p).stop 0) = cstop offs 0 := by
    cases offs with
    | nil => rfl
    | cons x xs => rfl
  have hlim : p + cstop offs 0 ≤ b.size := by
    cases offs with
    | nil => exact htot
    | cons x xs =>
      exact Nat.le_trans (Nat.add_le_add_left (cstart_le_cstop _ hnd 0 (Nat.succ_pos _)).2 p) htot
  unfold walkChunks
  rw [if_neg hcs, hinit]
  show (forIn (m := R) docs (0, p, p + cstop offs 0, #[]) _ >>= _) = _
  generalize hL : forIn (m := R) docs (0, p, p + cstop offs 0, #[]) _ = L
  obtain ⟨ci', lim', rfl, hfin⟩ : ∃ ci' lim', L = .ok (ci', lim', lim', #[] ++ (List.zipWith conv docs as).toArray) ∧
      (offs.length = 0 ∨ cstop offs (offs.length - 1) = cstop offs ci') := by
    rw [← hL]
    refine walk_loop offs p cs hnd htot hsim _ ?_ docs 0 p (p + cstop offs 0) #[] as
      (Nat.le_add_right _ _) hlim h
    intro d ci cur lim out ci2 cur2 lim2 a cur' hn hseek hdec
    cases hseek with
    | stay =>
      simp only [chunksOf, if_neg hn, ne_eq, not_true_eq_false, if_false, hdec, pure, Except.pure, bind,
        Except.bind]
    | jump _ _ hc h1 h3 =>
      simp only [↓chunksOf_start, ↓chunksOf_stop, chunksOf, if_neg hn, if_pos hc, if_neg h1,
        if_neg (not_not_intro (rfl : cur = cur)), if_neg (not_not_intro h3), hdec, pure, Except.pure, bind,
        Except.bind]
  have hlast : ¬ ((chunksOf offs p).n > 0 ∧ (chunksOf offs p).total ≠ (chunksOf offs p).stop ci') := by
    rw [chunksOf_total, chunksOf_stop]
    rintro ⟨(hpos : offs.length > 0), hne⟩
    rcases hfin with h0 | h1
    · omega
    · rw [← h1, List.getLastD_eq_getLast?, List.getLast?_eq_getElem?, ← List.getD_eq_getElem?_getD] at hne
      exact hne rfl
  simp only [bind, Except.bind, ne_eq, not_true_eq_false, if_false, if_neg hlast, pure, Except.pure]
  simp

/-- `readChunks` and `walkChunks` against `walkChunksL`; `hadj` says where the stream ends (`e`), in
    the terms of the twin. -/
theorem walkChunksA_sim (what : String) (pos cs e : Nat) (hsim : Sim b decL decA conv)
    (docs : List Nat) (as : List αL) (h : walkChunksL cs ((ofBA b).drop pos) docs decL = some as)
    (hadj : ∀ offs data, readChunksL ((ofBA b).drop pos) = some (offs, data) →
      b.size - data.length + offs.getLastD 0 = e) :
    ∃ ch, readChunks what b pos = .ok ch ∧ walkChunks what ch cs docs decA = .ok (List.zipWith conv docs as) ∧
      as.length = docs.length ∧ ch.endAbs = e := by
  unfold walkChunksL at h
  by_cases hcs : cs = 0
  · rw [if_pos hcs] at h; cases h
  · rw [if_neg hcs] at h
    cases hr : readChunksL ((ofBA b).drop pos) with
    | none => simp [hr] at h
    | some od =>
      obtain ⟨offs, data⟩ := od
      simp only [hr] at h
      obtain ⟨p, e1, e2, e3⟩ := readChunks_sim what b pos offs data hr
      obtain ⟨_, _, _, _, hnd, _⟩ := readChunksL_some hr
      rw [e2] at h
      refine ⟨_, e1, walkChunks_sim what offs p cs hnd e3 hcs hsim docs as h, walkL_length _ _ _ _ h, ?_⟩
      rw [← hadj offs data hr, Chunks.endAbs, chunksOf_total, e2, List.length_drop, ofBA_length,
        Nat.sub_sub_self (Nat.le_trans (Nat.le_add_right _ _) e3)]
      rfl

end Walk

theorem zipItems_sim (items : List (Nat × (Nat × Nat × Bool))) (lss : List (List MLoc)) (es : List Entry) :
    zipLocs items lss = some es →
    zipItems (items.map (Function.uncurry toItem)) lss = .ok es := by
  fun_induction zipLocs items lss generalizing es with
  | case1 =>
    intro h
    cases h
    rfl
  | case3 =>
    intro h
    cases h
  | case2 d f n fs l rest ih | case4 d f n fs rest ih =>
    intro h
    obtain ⟨tl, hz, rfl⟩ := Option.map_eq_some_iff.mp h
    simp [zipItems, Function.uncurry, toItem, ih tl hz, bind, Except.bind, pure, Except.pure]

theorem layoutEntries_sim (b : ByteArray) (cs : Nat) (docs : List Nat) (fo lo off : Nat) (es : List Entry)
    (hfo : fo ≠ 0)
    (h : decodeEntriesL cs docs ((ofBA b).drop fo) (if lo = 0 then none else some ((ofBA b).drop lo))
      = some es)
    (hadjF : ∀ offs data, readChunksL ((ofBA b).drop fo) = some (offs, data) →
      b.size - data.length + offs.getLastD 0 = if lo = 0 then off else lo)
    (hadjL : lo ≠ 0 → ∀ offs data, readChunksL ((ofBA b).drop lo) = some (offs, data) →
      b.size - data.length + offs.getLastD 0 = off) :
    layoutEntries b cs docs fo lo off = .ok es := by
  unfold decodeEntriesL at h
  cases hf : walkChunksL cs ((ofBA b).drop fo) docs decFreqL with
  | none => simp [hf] at h
  | some fsL =>
    simp only [hf] at h
    obtain ⟨fch, r1, w1, _, hendF⟩ := walkChunksA_sim "freq/norm stream" fo cs _ (decFreq_sim b) docs fsL hf hadjF
    rw [← List.map_uncurry_zip_eq_zipWith] at w1
    have hloc : ((List.map (Function.uncurry toItem) (docs.zip fsL)).filter (·.hasLocs)).map (·.doc)
        = ((docs.zip fsL).filter (·.2.2.2)).map (·.1) := by
      rw [List.filter_map, List.map_map]
      rfl
    unfold layoutEntries
    rw [if_neg hfo]
    simp only [bind, Except.bind, pure, Except.pure, r1, w1, hloc]
    by_cases hlo : lo = 0
    · rw [if_pos hlo] at h hendF
      simp only at h
      rw [if_pos hlo]
      by_cases hemp : (((docs.zip fsL).filter (·.2.2.2)).map (·.1)).isEmpty = true
      · rw [if_pos hemp] at h
        simp only [hemp, Bool.not_true, Bool.false_eq_true, if_false]
        rw [if_neg (by simp [hendF])]
        exact zipItems_sim _ _ _ h
      · rw [if_neg hemp] at h; cases h
    · rw [if_neg hlo] at h hendF
      simp only at h
      rw [if_neg hlo]
      cases hl : walkChunksL cs ((ofBA b).drop lo) (((docs.zip fsL).filter (·.2.2.2)).map (·.1)) decLocsL with
      | none => simp [hl] at h
      | some lss =>
        simp only [hl] at h
        obtain ⟨lch, r2, w2, hlen, hendL⟩ := walkChunksA_sim "location stream" lo cs off (decLocs_sim b) _ lss hl
          (hadjL hlo)
        rw [← List.map_uncurry_zip_eq_zipWith, show Function.uncurry (fun _ l => l) = Prod.snd from rfl,
          List.map_snd_zip (Nat.le_of_eq hlen)] at w2
        simp only [r2, w2]
        rw [if_neg (by simp [hendF]), if_neg (by simp [hendL])]
        exact zipItems_sim _ _ _ h

end Zap.Writer.LP
