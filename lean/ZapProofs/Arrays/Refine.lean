/-
  ZapProofs.Arrays.Refine: what `writeDicts` reads back from the shared arrays is, per (field id, term),
  what the entry-level model holds: both are the entries of the events with that key.
-/
import ZapProofs.Arrays.Fill

namespace Zap.Arr

theorem splitLocs_events (evs : List Ev) :
    splitLocs (evs.flatMap Ev.locs) (evs.map Ev.cell) = evs.map Ev.entry := by
  induction evs with
  | nil => rfl
  | cons e evs ih =>
    simp only [List.flatMap_cons, List.map_cons, splitLocs, Ev.cell, Ev.entry]
    rw [List.take_left', List.drop_left']
    · rw [ih]
    · rfl
    · rfl

theorem lookup_dictOf (S : Fill) (d : List (Bytes × Nat)) (t : Bytes) :
    lookup t (dictOf S d) =
      (lookup t d).bind (fun pid => if (readBack S pid).isEmpty then none else some (readBack S pid)) := by
  unfold dictOf
  rw [lookup_filterMap_keys (fun t => (lookup t d).bind
    (fun pid => let es := readBack S pid; if es.isEmpty then none else some es))]
  by_cases h : t ∈ sortNames (d.map (·.1))
  · rw [if_pos h]
  · rw [if_neg h, lookup_eq_none_iff.2 (fun e => h (mem_sortNames.2 e))]
    rfl

theorem getD_of_length_le {α : Type} {l : List α} {i : Nat} (h : l.length ≤ i) (d : α) : l.getD i d = d := by
  rw [List.getD_eq_getElem?_getD, List.getElem?_eq_none h, Option.getD_none]

theorem getD_map_nil {α β : Type} (F : List α → List β) (hF : F [] = []) (l : List (List α)) (i : Nat) :
    (l.map F).getD i [] = F (l.getD i []) := by
  rw [List.getD_eq_getElem?_getD, List.getD_eq_getElem?_getD, List.getElem?_map]
  cases l[i]? with
  | none => simp [hF]
  | some x => rfl

theorem readBack_exact (c : Counts) (ks : List Key) (S : Fill) (evs : List Ev) (h : FillInv c ks S evs)
    (hlenT : c.nT.length = ks.length) (hlenL : c.nL.length = ks.length)
    (pid : Nat) (hlt : pid < ks.length) :
    readBack S pid = (evsAt ks pid evs).map Ev.entry := by
  unfold readBack
  rw [exact_read S.fn c.nT _ pid h.fn (by rw [hlenT]; exact hlt),
    exact_read S.loc c.nL _ pid h.loc (by rw [hlenL]; exact hlt)]
  exact splitLocs_events _

/-- Both sides are read off the event list: the arrays hold, in the window of a counted key, the
    events of that key (`readBack_exact`); `processDocs` holds them by `lookup_processDocs`.
    `hb` is needed for COUNTED ≥ APPENDED (`batch_bounds`) only. -/
theorem arrays_refine_from (staleFN : List FN) (staleLoc : List MLoc) (vectors : Bool) (b : Batch)
    (hb : ∀ d ∈ b, DocTermsDistinct d) (fid : Nat) (term : Bytes) :
    lookup term ((buildDictsArraysFrom staleFN staleLoc vectors b).getD fid []) =
      lookup term ((processDocs vectors (fieldTable b) b).getD fid []) := by
  obtain ⟨ks, hc, hfill⟩ := fillPass_inv staleFN staleLoc vectors b hb
  unfold buildDictsArraysFrom buildWith
  generalize hcdef : countPass (fieldTable b) b = c at hc hfill ⊢
  generalize hSdef : fillPass vectors (fieldTable b) c (initFill c staleFN staleLoc) b = S at hfill ⊢
  have hds : dictsOf c S = c.dicts.map (dictOf S) := by
    unfold dictsOf
    rw [hfill.notBad, hfill.fn.notBad, hfill.loc.notBad]; rfl
  rw [hds, getD_map_nil (dictOf S) rfl, lookup_dictOf]
  by_cases hfid : fid < (fieldTable b).length
  · rw [lookup_processDocs vectors _ b fid term hfid]
    cases hl : lookup term (c.dicts.getD fid []) with
    | none =>
      -- never counted, hence never appended
      have h0 : cntV (fid, term) (visits (fieldTable b) b) = 0 :=
        Nat.eq_zero_of_not_pos (fun h => (hc.look_none fid term).1 hl ((hc.mem _).2 h))
      have h1 := (batch_bounds vectors b hb (fid, term)).1
      have h2 : (events vectors (fieldTable b) b).filter (fun e => decide (e.key = (fid, term))) = [] :=
        List.length_eq_zero_iff.1 (Nat.eq_zero_of_le_zero (h0 ▸ h1))
      rw [h2]; rfl
    | some pid =>
      have hk : ks[pid]? = some (fid, term) := (hc.look fid term pid).1 hl
      have hrb := readBack_exact c ks S _ hfill hc.lenT hc.lenL pid (List.getElem?_eq_some_iff.1 hk).1
      rw [evsAt_eq_filter ks pid _ hk] at hrb
      simp only [Option.bind_some, hrb]
      cases ((events vectors (fieldTable b) b).filter (fun e => decide (e.key = (fid, term)))).map Ev.entry <;> rfl
  · -- beyond the table: no dictionary on either side
    have hfid := Nat.le_of_not_lt hfid
    rw [getD_of_length_le (hc.dlen ▸ hfid),
      getD_of_length_le ((length_processDocs ..).symm ▸ hfid)]
    rfl

theorem length_buildDictsArraysFrom (staleFN : List FN) (staleLoc : List MLoc) (vectors : Bool) (b : Batch)
    (hb : ∀ d ∈ b, DocTermsDistinct d) :
    (buildDictsArraysFrom staleFN staleLoc vectors b).length = (fieldTable b).length := by
  obtain ⟨ks, hc, hfill⟩ := fillPass_inv staleFN staleLoc vectors b hb
  unfold buildDictsArraysFrom buildWith dictsOf
  rw [hfill.notBad, hfill.fn.notBad, hfill.loc.notBad]
  simp [hc.dlen]

theorem dictsAgree_of_refine (A D : Dicts) (hlen : A.length = D.length)
    (h : ∀ fid t, lookup t (A.getD fid []) = lookup t (D.getD fid [])) : dictsAgree A D = true := by
  unfold dictsAgree
  simp only [Bool.and_eq_true, beq_iff_eq, List.all_eq_true, decide_eq_true_eq]
  exact ⟨hlen, fun fid _ t _ => h fid t⟩

/-- the executable cross-check of ZapModel.BuildArrays cannot fail on such a batch -/
theorem arraysAgree_of_distinct (vectors : Bool) (b : Batch) (hb : ∀ d ∈ b, DocTermsDistinct d) :
    arraysAgree vectors b = true := by
  unfold arraysAgree
  simp only [Bool.and_eq_true]
  constructor
  · apply dictsAgree_of_refine
    · rw [buildDictsArrays, length_buildDictsArraysFrom _ _ _ _ hb, length_processDocs]
    · exact arrays_refine_from [] [] vectors b hb
  · apply dictsAgree_of_refine
    · rw [length_buildDictsArraysFrom _ _ _ _ hb, length_processDocs]
    · exact arrays_refine_from _ _ vectors b hb

theorem arrays_docs_asc (vectors : Bool) (b : Batch) (hb : ∀ d ∈ b, DocTermsDistinct d) (fid : Nat)
    (term : Bytes) :
    match lookup term ((buildDictsArrays vectors b).getD fid []) with
    | none => True
    | some es => AscNat (es.map (·.doc)) ∧ es ≠ [] := by
  rw [buildDictsArrays, arrays_refine_from [] [] vectors b hb fid term]
  by_cases hfid : fid < (fieldTable b).length
  · have hn : (fieldTable b)[fid] ∈ fieldTable b := List.getElem_mem hfid
    have hR := lookup_processDocs_named vectors (fieldTable b) _ hn term b hb
    rw [fieldIdOf_getElem (fieldTable_nodup b) fid hfid] at hR
    rw [hR]
    have hasc := entryOf_docs_asc vectors (fieldTable b) (fieldTable b)[fid] term b
    cases hl : List.filterMap (fun p => entryOf vectors (fieldTable b) (fieldTable b)[fid] term p.2 p.1) b.zipIdx with
    | nil => trivial
    | cons e es => exact ⟨ascNat_iff_pairwise.2 (hl ▸ hasc), List.cons_ne_nil _ _⟩
  · rw [getD_of_length_le ((length_processDocs ..).symm ▸ Nat.le_of_not_lt hfid)]
    trivial

end Zap.Arr
