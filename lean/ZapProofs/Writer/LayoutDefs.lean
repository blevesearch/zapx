/-
  The part of `Layout.decPostings` between the bitmap lookup and the writer-model tie, composed from
  Layout's OWN functions (`readChunks`, `walkChunks`, `decFreq`, `decLocs`).  `decPostings` itself
  cannot be used in statements: it fetches the bitmap from a `Std.HashMap` keyed by strings (the
  oracle), and its last loop is inline; the loop is replicated here as `zipItems`.
  The adjacency checks of `decPostings` (streams back to back: format fact F7 in the header of ZapModel/Layout.lean) are kept.
-/
import ZapModel.Layout

namespace Zap.Writer.LayoutDefs
open Zap.Layout

/-- The last loop of `Layout.decPostings`. -/
def zipItems : List FreqItem → List (List MLoc) → R (List Entry)
  | [], _ => pure []
  | f :: fs, rest =>
    if f.hasLocs then
      match rest with
      | l :: r => do
        let tl ← zipItems fs r
        pure ({ doc := f.doc, freq := f.freq, norm := f.norm, locs := l } :: tl)
      | [] => throw s!"missing locations for doc {f.doc}"
    else do
      let tl ← zipItems fs rest
      pure ({ doc := f.doc, freq := f.freq, norm := f.norm, locs := [] } :: tl)

/-- `Layout.decPostings` from `if fo = 0 ...` to its last loop (what follows there, the
    writer-model tie, is left out): the record is at `off`, the freq/norm stream at `fo`, the
    location stream at `lo` (0 = absent), the documents of the bitmap are `docs`, the chunk size
    is `cs`. -/
def layoutEntries (b : ByteArray) (cs : Nat) (docs : List Nat) (fo lo off : Nat) : R (List Entry) := do
  if fo = 0 then throw "freq/norm stream absent"
  let fch ← readChunks "freq/norm stream" b fo
  let fs ← walkChunks "freq/norm stream" fch cs docs (decFreq b)
  let locDocs := (fs.filter (·.hasLocs)).map (·.doc)
  let ls ←
    if lo = 0 then
      if !locDocs.isEmpty then throw "documents flagged hasLocs but no location stream"
      if fch.endAbs ≠ off then throw "freq/norm stream does not end at the record"
      pure []
    else do
      let lch ← readChunks "location stream" b lo
      if fch.endAbs ≠ lo then throw "freq/norm stream does not end at the location stream"
      if lch.endAbs ≠ off then throw "location stream does not end at the record"
      walkChunks "location stream" lch cs locDocs (decLocs b)
  zipItems fs ls

def isOk {α : Type} [DecidableEq α] (r : R α) (a : α) : Bool :=
  match r with
  | .ok x => x = a
  | .error _ => false

/-- No oracle blobs: `Layout.decStoredDoc` looks none up. -/
def ctxOf (bs : Bytes) (numDocs chunkMode : Nat) : Ctx :=
  { b := toBA bs, blobs := {}, numDocs := numDocs, chunkMode := chunkMode }

end Zap.Writer.LayoutDefs
