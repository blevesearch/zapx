/-
  C01 (shared backing arrays): the builder's `freqNormsBacking` / `locsBacking`, carved by the
  count pass of `realloc` into per-postings-list windows whose capacity runs to the END of the
  array, and filled by `process`, hold for every (field, term) exactly the entries of the
  entry-level model `processDocs` (which `C01_entries_all` ties to the specification).

  The model is ZapModel/BuildArrays.lean, the lemmas are in ZapProofs/Arrays.
-/
import ZapProofs.Arrays.Refine
import ZapProofs.Props.C01Build

namespace Zap
open Zap.Arr

/-- REFINEMENT: on a fresh opaque, what `writeDicts` reads back from the shared arrays for
    (field id, term) is what the entry-level model holds (as association-list content; the array
    model lists terms in `sort.Strings` order, `processDocs` in first-commit order). -/
theorem C01_arrays_refine (vectors : Bool) (b : Batch) (hwf : Spec.WF b) :
    ∀ fid term, lookup term ((buildDictsArrays vectors b).getD fid []) =
      lookup term ((processDocs vectors (fieldTable b) b).getD fid []) :=
  arrays_refine_from [] [] vectors b hwf.termsDistinct

/-- the same on a REUSED opaque: the old arrays (any content, any capacity) are resliced when large
    enough, so windows start with stale cells and the capacity can exceed the new total -/
theorem C01_arrays_refine_reused (staleFN : List FN) (staleLoc : List MLoc) (vectors : Bool) (b : Batch)
    (hwf : Spec.WF b) :
    ∀ fid term, lookup term ((buildDictsArraysFrom staleFN staleLoc vectors b).getD fid []) =
      lookup term ((processDocs vectors (fieldTable b) b).getD fid []) :=
  arrays_refine_from staleFN staleLoc vectors b hwf.termsDistinct

/-- both models have one dictionary per field of the table -/
theorem C01_arrays_length (vectors : Bool) (b : Batch) (hwf : Spec.WF b) :
    (buildDictsArrays vectors b).length = (processDocs vectors (fieldTable b) b).length := by
  rw [buildDictsArrays, length_buildDictsArraysFrom _ _ _ _ hwf.termsDistinct,
    length_processDocs]

/-- COUNTED ≥ APPENDED: for every (field id, term) the fill pass appends at most as many freq/norm
    cells, and at most as many locations, as the count pass reserved. -/
theorem C01_counted_ge_appended (vectors : Bool) (b : Batch) (hwf : Spec.WF b) (k : Nat × Bytes) :
    cntE k (events vectors (fieldTable b) b) ≤ cntV k (visits (fieldTable b) b) ∧
    locE k (events vectors (fieldTable b) b) ≤ wV k (visits (fieldTable b) b) :=
  batch_bounds vectors b hwf.termsDistinct k

/-- THE INVARIANT, one step of the fill pass at a time: if after the appends `done` every postings
    list's slice is still the window carved for it (windows pairwise disjoint), holds exactly what
    was appended to it and not more than was counted, and the remaining appends `todo` respect the
    counts, then the same is true after `todo`.  (`Exact` = appended ≤ counted ∧ header = carved
    window ∧ cells = appended elements; see Arrays/Arena.) -/
theorem C01_fill_regions_exact (nF : Nat) (c : Counts) (vs : List Visit) (ks : List Key)
    (hc : CInv nF c vs ks) (todo : List Ev) (S : Fill) (done : List Ev) (h : FillInv c ks S done)
    (hkeys : ∀ ev ∈ todo, ev.key ∈ ks)
    (hT : ∀ pid, pid < ks.length → (evsAt ks pid (done ++ todo)).length ≤ c.nT.getD pid 0)
    (hL : ∀ pid, pid < ks.length →
      ((evsAt ks pid (done ++ todo)).flatMap Ev.locs).length ≤ c.nL.getD pid 0) :
    FillInv c ks (todo.foldl (fillEv c) S) (done ++ todo) :=
  fill_regions_exact nF c vs ks hc todo S done h hkeys hT hL

/-- … and it holds at the end of the real fill pass of every well-formed batch (fresh or reused
    arrays): nothing panicked, no slice was reallocated, every window holds exactly its appends. -/
theorem C01_fill_final (staleFN : List FN) (staleLoc : List MLoc) (vectors : Bool) (b : Batch)
    (hwf : Spec.WF b) :
    ∃ ks, CInv (fieldTable b).length (countPass (fieldTable b) b) (visits (fieldTable b) b) ks ∧
      FillInv (countPass (fieldTable b) b) ks
        (fillPass vectors (fieldTable b) (countPass (fieldTable b) b)
          (initFill (countPass (fieldTable b) b) staleFN staleLoc) b)
        (events vectors (fieldTable b) b) :=
  fillPass_inv staleFN staleLoc vectors b hwf.termsDistinct

/-- the windows of two different postings lists never share a cell -/
theorem C01_windows_disjoint (ns : List Nat) {p q i j : Nat} (hpq : p ≠ q)
    (hi : i < ns.getD p 0) (hj : j < ns.getD q 0) : startOf ns p + i ≠ startOf ns q + j :=
  windows_disjoint ns hpq hi hj

/-- Documents of a list come back strictly ascending: the k-th element of the roaring bitmap
    `Postings[pid]` is the document of the k-th appended cell, which is why the model may keep the
    document number in the cell. -/
theorem C01_arrays_docs_asc (vectors : Bool) (b : Batch) (hwf : Spec.WF b) (fid : Nat) (term : Bytes) :
    match lookup term ((buildDictsArrays vectors b).getD fid []) with
    | none => True
    | some es => AscNat (es.map (·.doc)) ∧ es ≠ [] :=
  arrays_docs_asc vectors b hwf.termsDistinct fid term

/-- the executable cross-check the transcript driver runs on every build cannot fail on a
    well-formed batch (so a `false` is a finding about the batch or about the model) -/
theorem C01_arraysAgree (vectors : Bool) (b : Batch) (hwf : Spec.WF b) : arraysAgree vectors b = true :=
  arraysAgree_of_distinct vectors b hwf.termsDistinct

/-! ### The count matters: one count too small and a neighbour's window is overwritten -/

namespace C01ArraysExample

def nA : Name := [97]
def tX : Bytes := [120]
def tY : Bytes := [121]

/-- two documents, one field, both documents have the terms `x` and `y` -/
def ub : Batch :=
  [ { id := [49], fields := [ { name := nA, len := 2, toks := [{ term := tX, freq := 1, locs := [] },
                                                              { term := tY, freq := 2, locs := [] }] } ] },
    { id := [50], fields := [ { name := nA, len := 2, toks := [{ term := tX, freq := 3, locs := [] },
                                                              { term := tY, freq := 4, locs := [] }] } ] } ]

/-- the counts `realloc` computes, and the same with list 0 (`x`) counted one short -/
def good : Counts := countPass (fieldTable ub) ub
def short : Counts := { good with nT := good.nT.modify 0 (· - 1) }

example : good.nT = [2, 2] ∧ short.nT = [1, 2] ∧ good.totTFs = 4 := by decide +kernel

end C01ArraysExample

open C01ArraysExample in
/-- NEGATIVE FACT.  With the real counts, `y` reads back its own two cells.  With `x` counted one
    short, `y`'s window starts one cell earlier; `x`'s slice has capacity to the end of the array, so
    its second append (document 1, freq 3) silently lands on `y`'s first cell (document 0, freq 2):
    `y` reads back a posting of document 1 twice, with `x`'s frequency.  Nothing panics. -/
theorem undercount_overwrites :
    lookup tY ((buildWith false ub good [] []).getD 1 []) =
      some [ { doc := 0, freq := 2, norm := 2, locs := [] }, { doc := 1, freq := 4, norm := 2, locs := [] } ] ∧
    lookup tY ((processDocs false (fieldTable ub) ub).getD 1 []) =
      some [ { doc := 0, freq := 2, norm := 2, locs := [] }, { doc := 1, freq := 4, norm := 2, locs := [] } ] ∧
    lookup tY ((buildWith false ub short [] []).getD 1 []) =
      some [ { doc := 1, freq := 3, norm := 2, locs := [] }, { doc := 1, freq := 4, norm := 2, locs := [] } ] ∧
    lookup tX ((buildWith false ub short [] []).getD 1 []) =
      some [ { doc := 0, freq := 1, norm := 2, locs := [] }, { doc := 1, freq := 3, norm := 2, locs := [] } ] ∧
    (fillPass false (fieldTable ub) short (initFill short [] []) ub).bad = false ∧
    (fillPass false (fieldTable ub) short (initFill short [] []) ub).fn.bad = false := by
  decide +kernel

/-! ### Non-vacuity -/

namespace C01ArraysExample

/-- the batch of C01Build: field `a` twice in document 0 (COUNT 2 for (`a`, `x`) in that document,
    ONE append), composite `_all` twice in document 1 -/
example : Spec.WF C01Example.batch := C01Example.batch_wf

example : arraysAgree false C01Example.batch = true ∧ arraysAgree true C01Example.batch = true := by
  decide +kernel

/-- counted vs appended on that batch: list 2 is (`a`, `x`): counted 3 cells, 2 appended (one slack
    cell stays unwritten at the end of its window); locations: exactly the 4 counted -/
example :
    (countPass (fieldTable C01Example.batch) C01Example.batch).nT = [3, 1, 3, 1, 1, 1] ∧
    (countPass (fieldTable C01Example.batch) C01Example.batch).nL = [5, 0, 4, 1, 0, 0] ∧
    cntV (2, C01Example.tX) (visits (fieldTable C01Example.batch) C01Example.batch) = 3 ∧
    cntE (2, C01Example.tX) (events false (fieldTable C01Example.batch) C01Example.batch) = 2 ∧
    wV (2, C01Example.tX) (visits (fieldTable C01Example.batch) C01Example.batch) = 4 ∧
    locE (2, C01Example.tX) (events false (fieldTable C01Example.batch) C01Example.batch) = 4 := by
  decide +kernel

/-- both sides of `C01_arrays_refine` for (`a`, `x`), evaluated -/
example :
    lookup C01Example.tX ((buildDictsArrays false C01Example.batch).getD 2 []) = some
      [ { doc := 0, freq := 3, norm := 3, locs := [⟨2, 1, 0, 1, []⟩, ⟨2, 2, 2, 3, []⟩, ⟨2, 1, 0, 1, [1]⟩] },
        { doc := 1, freq := 1, norm := 1, locs := [⟨2, 1, 0, 1, []⟩] } ] ∧
    lookup C01Example.tX ((processDocs false (fieldTable C01Example.batch) C01Example.batch).getD 2 []) = some
      [ { doc := 0, freq := 3, norm := 3, locs := [⟨2, 1, 0, 1, []⟩, ⟨2, 2, 2, 3, []⟩, ⟨2, 1, 0, 1, [1]⟩] },
        { doc := 1, freq := 1, norm := 1, locs := [⟨2, 1, 0, 1, []⟩] } ] := by
  decide +kernel

/-- a term counted but never filled: a token on a synonym-kind field is seen by `realloc`'s
    `visitField` (pid 1, one cell reserved) but `Process` skips the field; the list stays empty and
    the term is not written (`postingsOffset == 0`) — in both models -/
def synBatch : Batch :=
  [ { id := [49], fields := [ { name := idName, stored := true, val := [49], len := 1,
                                toks := [{ term := [49], freq := 1, locs := [] }] },
                              { kind := .syn, name := nA, len := 1, toks := [{ term := tX, freq := 1, locs := [] }] } ] } ]

example :
    Spec.WF synBatch ∧
    (countPass (fieldTable synBatch) synBatch).dicts = [[([49], 0)], [(tX, 1)]] ∧
    (countPass (fieldTable synBatch) synBatch).nT = [1, 1] ∧
    lookup tX ((buildDictsArrays false synBatch).getD 1 []) = none ∧
    lookup tX ((processDocs false (fieldTable synBatch) synBatch).getD 1 []) = none ∧
    arraysAgree false synBatch = true :=
  ⟨⟨by decide +kernel, by decide +kernel, by decide +kernel⟩, by decide +kernel, by decide +kernel,
    by decide +kernel, by decide +kernel, by decide +kernel⟩

/-- reused arrays full of junk, with spare capacity: same result -/
example :
    buildDictsArraysFrom (List.replicate 12 junkFN) (List.replicate 12 junkLoc) false C01Example.batch =
      buildDictsArrays false C01Example.batch := by
  decide +kernel

/-- why `Spec.WF.termsDistinct` is needed in the MODEL: a token list that names a term twice is not
    a Go map.  `firstTFs` keeps both entries, a later instance's locations are merged into BOTH
    (`mergeTok` maps over all matches), so 4 locations are appended where 3 were counted: the list
    overflows into the window of its neighbour `z`, whose own (later) append then overwrites the
    overflowed cell: `x` reads back `z`'s location (position 9) and the two models differ. -/
def dupBatch : Batch :=
  [ { id := [49], fields :=
      [ { name := nA, len := 2, toks := [{ term := tX, freq := 1, locs := [⟨[], 1, 0, 1, []⟩] },
                                         { term := tX, freq := 1, locs := [⟨[], 2, 0, 1, []⟩] },
                                         { term := [122], freq := 1, locs := [⟨[], 9, 0, 1, []⟩] }] },
        { name := nA, len := 1, toks := [{ term := tX, freq := 1, locs := [⟨[], 3, 0, 1, []⟩] }] } ] } ]

example :
    wV (1, tX) (visits (fieldTable dupBatch) dupBatch) = 3 ∧
    locE (1, tX) (events false (fieldTable dupBatch) dupBatch) = 4 ∧
    arraysAgree false dupBatch = false ∧
    ((lookup tX ((buildDictsArrays false dupBatch).getD 1 [])).map (fun es => es.map (fun e => e.locs.map (·.pos)))) =
      some [[1, 3], [2, 9]] ∧
    ((lookup tX ((processDocs false (fieldTable dupBatch) dupBatch).getD 1 [])).map
      (fun es => es.map (fun e => e.locs.map (·.pos)))) = some [[1, 3], [2, 3]] := by
  decide +kernel

end C01ArraysExample

#print axioms C01_arrays_refine
#print axioms C01_arrays_refine_reused
#print axioms C01_arrays_length
#print axioms C01_counted_ge_appended
#print axioms C01_fill_regions_exact
#print axioms C01_fill_final
#print axioms C01_windows_disjoint
#print axioms C01_arrays_docs_asc
#print axioms C01_arraysAgree
#print axioms undercount_overwrites

end Zap
