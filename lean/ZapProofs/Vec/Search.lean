/-
  ZapProofs.Vec.Search: vector search around an abstract engine (C14): the id table, from the
  engine contract `VecSearch.ExactSel` to the run-time checker `validTopK`, the two search
  closures, the postings in iteration order, and the reference engine that satisfies the contract.
-/
import ZapModel.VecSearch
import ZapProofs.Base.Basic
import ZapProofs.Vec.Basic
import ZapProofs.Codec.Bits

namespace Zap.VecL
open Zap.VecSearch

theorem validTopK_intro (metric k : Nat) (M R : List VHit)
    (hsub : ∀ r ∈ R, r ∈ M) (hnd : R.Nodup)
    (hex : ∀ r ∈ R, ∀ m ∈ M, m ∉ R → vbetter metric m.score r.score = false)
    (hk : R.length ≤ k)
    (hsize : min k M.length ≤ R.length + (M.length - M.eraseDups.length)) :
    validTopK metric k M R = true := by
  unfold validTopK
  simp only [List.Nodup.eraseDups hnd]
  simp only [Bool.and_eq_true, List.all_eq_true, List.contains_iff_mem, beq_self_eq_true,
    decide_eq_true_eq, Bool.or_true, and_true, List.mem_filter,
    Bool.not_eq_eq_eq_not, Bool.not_true, ge_iff_le]
  refine ⟨⟨⟨hsub, ?_⟩, hk⟩, hsize⟩
  intro r hr m hm
  exact hex r hr m hm.1 (by simpa using hm.2)

/-- `vecDocIDMap[vecID]` is the association-list lookup of `ZapModel.Basic` -/
theorem lookupDoc_eq_lookup (m : VMap) (id : Nat) : lookupDoc m id = lookup id m := by
  fun_induction lookupDoc m id with
  | case1 => rfl
  | case2 d r id => exact (if_pos rfl).symm
  | case3 i d r id hne ih => exact ih.trans (if_neg (Ne.symm hne)).symm

theorem lookupDoc_some_mem : ∀ (m : VMap) (id d : Nat), lookupDoc m id = some d → (id, d) ∈ m :=
  fun m id _ h => mem_of_lookup_eq_some ((lookupDoc_eq_lookup m id).symm.trans h)

theorem lookupDoc_of_mem (m : VMap) (hnd : (m.map (·.1)).Nodup) (id d : Nat) (h : (id, d) ∈ m) :
    lookupDoc m id = some d :=
  (lookupDoc_eq_lookup m id).trans (lookup_eq_some_of_mem hnd h)

/-- The id lists zapx builds from the table (`vecIDsToExclude`, `ineligibleVecIDs`, `docVecIDs`)
    are all "the ids of the pairs whose document satisfies `P`"; with distinct ids, an id of the
    table is in such a list iff its own document satisfies `P`. -/
theorem contains_ids_where (m : VMap) (hnd : (m.map (·.1)).Nodup) (P : Nat → Bool) {id d : Nat}
    (hm : (id, d) ∈ m) : ((m.filter (fun p => P p.2)).map (·.1)).contains id = P d := by
  rw [Bool.eq_iff_iff, List.contains_iff_mem, List.mem_map]
  constructor
  · rintro ⟨p, hp, hid⟩
    have hpm := List.mem_filter.1 hp
    have : p = (id, d) := List.inj_on_of_nodup_map hnd hpm.1 hm hid
    subst this
    exact hpm.2
  · intro hP
    exact ⟨(id, d), List.mem_filter.2 ⟨hm, hP⟩, rfl⟩

theorem contains_excl (m : VMap) (hnd : (m.map (·.1)).Nodup) (ex : List Nat) {id d : Nat}
    (hm : (id, d) ∈ m) : (vecIDsToExclude m ex).contains id = ex.contains d :=
  contains_ids_where m hnd (fun d => ex.contains d) hm

theorem contains_ineligible (m : VMap) (hnd : (m.map (·.1)).Nodup) (live : List Nat) {id d : Nat}
    (hm : (id, d) ∈ m) : (ineligibleVecIDs m live).contains id = !live.contains d :=
  contains_ids_where m hnd (fun d => !live.contains d) hm

theorem contains_incl (m : VMap) (hnd : (m.map (·.1)).Nodup) (el : List Nat) {id d : Nat}
    (hm : (id, d) ∈ m) : (el.flatMap (docVecIDs m)).contains id = el.contains d := by
  rw [List.contains_flatMap, List.contains_eq_any_beq]
  exact congrArg el.any (funext fun d' => contains_ids_where m hnd (· == d') hm)

theorem contains_liveEligible (ex el : List Nat) (d : Nat) :
    (liveEligible ex el).contains d = (el.contains d && !ex.contains d) := by
  rw [Bool.eq_iff_iff]
  simp only [liveEligible, List.contains_iff_mem, List.mem_filter, Bool.and_eq_true]

theorem entry_mem_map {c : Content} {t : Nat × Nat × List Int} (ht : t ∈ c) :
    (t.1, t.2.1) ∈ vecDocIDMap c :=
  List.mem_map.2 ⟨t, ht, rfl⟩

theorem vecDocIDMap_nodup {c : Content} (hnd : (c.map (·.1)).Nodup) :
    ((vecDocIDMap c).map (·.1)).Nodup := by
  rw [vecDocIDMap, List.map_map]
  exact hnd

theorem lookupDoc_entry (c : Content) (hnd : (c.map (·.1)).Nodup) (t : Nat × Nat × List Int)
    (ht : t ∈ c) : lookupDoc (vecDocIDMap c) t.1 = some t.2.1 :=
  lookupDoc_of_mem _ (vecDocIDMap_nodup hnd) _ _ (entry_mem_map ht)

def vhitOf (metric : Nat) (q : List Int) (t : Nat × Nat × List Int) : VHit :=
  { doc := t.2.1, score := vscore metric q t.2.2 }

theorem admissible_content (ix : VIndex) (opt : Nat) (q : List Int) (ex elig : Option (List Nat)) :
    admissible (ix.toVecIx opt) q ex elig =
      (ix.content.filter (fun t => docOK ex elig t.2.1)).map (vhitOf ix.metric q) := by
  rw [admissible_docOK]
  simp only [VIndex.toVecIx, List.filter_map, List.map_map]
  rfl

/-! ### from the engine contract to the checker -/

theorem mem_addIDs (m : VMap) (res : List (Nat × Int)) (h : VHit) :
    h ∈ addIDsToPostingsList m res ↔ ∃ p ∈ res, ∃ d, lookupDoc m p.1 = some d ∧ ⟨d, p.2⟩ = h := by
  simp only [addIDsToPostingsList, List.mem_eraseDups, List.mem_filterMap, Option.map_eq_some_iff]

theorem addIDs_length_le (m : VMap) (res : List (Nat × Int)) :
    (addIDsToPostingsList m res).length ≤ res.length :=
  Nat.le_trans (List.length_eraseDups_le _) (List.length_filterMap_le _ _)

theorem addIDs_nodup (m : VMap) (res : List (Nat × Int)) : (addIDsToPostingsList m res).Nodup :=
  List.nodup_eraseDups _

theorem mem_addIDs_complete (c : Content) (hnd : (c.map (·.1)).Nodup) (metric : Nat) (q : List Int)
    (adm : Nat → Bool) (res : List (Nat × Int))
    (hs : ∀ p ∈ res, ∃ d v, (p.1, d, v) ∈ c ∧ adm p.1 = true ∧ p.2 = vscore metric q v) (h : VHit) :
    h ∈ addIDsToPostingsList (vecDocIDMap c) res ↔
      ∃ t ∈ c, t.1 ∈ res.map (·.1) ∧ adm t.1 = true ∧ h = vhitOf metric q t := by
  rw [mem_addIDs]
  constructor
  · rintro ⟨p, hp, d, hd, rfl⟩
    obtain ⟨d', v, hc, ha, hsc⟩ := hs p hp
    obtain rfl : d' = d := Option.some.inj ((lookupDoc_entry c hnd _ hc).symm.trans hd)
    exact ⟨_, hc, List.mem_map.2 ⟨p, hp, rfl⟩, ha, congrArg (VHit.mk d') hsc⟩
  · rintro ⟨t, ht, hid, _, rfl⟩
    obtain ⟨p, hp, hpt⟩ := List.mem_map.1 hid
    obtain ⟨d', v, hc, _, hsc⟩ := hs p hp
    obtain rfl := List.inj_on_of_nodup_map hnd hc ht hpt
    exact ⟨p, hp, d', lookupDoc_entry c hnd _ hc, congrArg (VHit.mk d') hsc⟩

/-- Apply it with `adm` written out.  The conclusion mentions `adm` only as `fun t => adm t.1`,
    which is no unification pattern; where first-order approximation fails (`!l.contains t.1`),
    Lean unfolds `validTopK` on both sides, which is very slow, before it looks at `hE`. -/
theorem validTopK_of_exactSel (c : Content) (hnd : (c.map (·.1)).Nodup) (metric : Nat) (q : List Int)
    (k : Nat) (adm : Nat → Bool) (res : List (Nat × Int)) (hE : ExactSel c metric q k adm res) :
    validTopK metric k ((c.filter (fun t => adm t.1)).map (vhitOf metric q))
      (addIDsToPostingsList (vecDocIDMap c) res) = true := by
  have hmem := mem_addIDs_complete c hnd metric q adm res hE.sound
  apply validTopK_intro
  · intro r hr
    obtain ⟨t, ht, _, ha, rfl⟩ := (hmem r).1 hr
    exact List.mem_map.2 ⟨t, List.mem_filter.2 ⟨ht, ha⟩, rfl⟩
  · exact addIDs_nodup _ _
  · intro r hr m hm hnot
    obtain ⟨t, ht, rfl⟩ := List.mem_map.1 hm
    obtain ⟨htc, hta⟩ := List.mem_filter.1 ht
    have hout : t.1 ∉ res.map (·.1) := fun hin => hnot ((hmem _).2 ⟨t, htc, hin, hta, rfl⟩)
    obtain ⟨p, hp, d, _, rfl⟩ := (mem_addIDs _ _ _).1 hr
    exact hE.exact p hp t htc hta hout
  · exact Nat.le_trans (addIDs_length_le _ _) hE.atMost
  · -- size: the returned ids are ids of different admissible entries (`S`), so |res| ≤ |S|; the
    -- codes of `S` are among the postings, and `dupcount` bounds what collapsing costs
    obtain ⟨S, hS⟩ : ∃ S, S = (c.filter (fun t => adm t.1)).filter (fun t => (res.map (·.1)).contains t.1) :=
      ⟨_, rfl⟩
    have hI : (res.map (·.1)).length ≤ (S.map (·.1)).length :=
      hE.nodup.length_le_of_subset fun id h => by
        obtain ⟨p, hp, rfl⟩ := List.mem_map.1 h
        obtain ⟨d, v, hc, ha, _⟩ := hE.sound p hp
        rw [hS]
        exact List.mem_map.2 ⟨(p.1, d, v), List.mem_filter.2 ⟨List.mem_filter.2 ⟨hc, ha⟩,
          List.contains_iff_mem.2 h⟩, rfl⟩
    have hd := dupcount (c.filter (fun t => adm t.1)) (fun t => (res.map (·.1)).contains t.1)
      (vhitOf metric q) (addIDsToPostingsList (vecDocIDMap c) res) (fun t ht hid =>
        (hmem _).2 ⟨t, (List.mem_filter.1 ht).1, List.contains_iff_mem.1 hid, (List.mem_filter.1 ht).2, rfl⟩)
    have hcount := hE.count
    have hle := List.length_eraseDups_le ((c.filter (fun t => adm t.1)).map (vhitOf metric q))
    rw [← hS] at hd
    simp only [List.length_map] at hI hd hle ⊢
    omega

/-- nothing selected: nothing returned (the `count` clause of the contract) -/
theorem exactSel_nil_of_none {c : Content} {metric : Nat} {q : List Int} {k : Nat} {adm : Nat → Bool}
    {res : List (Nat × Int)} (hE : ExactSel c metric q k adm res) (hno : ∀ t ∈ c, adm t.1 = false) :
    res = [] := by
  have hc := hE.count
  have hnil : c.filter (fun t => adm t.1) = [] :=
    List.filter_eq_nil_iff.2 (fun t ht => Bool.eq_false_iff.1 (hno t ht))
  rw [hnil, List.length_nil, Nat.min_zero] at hc
  exact List.length_eq_zero_iff.1 hc

/-- `res` is an exact best-`k` selection among the vectors of the documents satisfying `P`.
    The engine selects by vector id: `adm` is the id predicate zapx handed it, which - ids
    distinct - picks the vectors of exactly those documents. -/
def DocSel (c : Content) (metric : Nat) (q : List Int) (k : Nat) (P : Nat → Bool)
    (res : List (Nat × Int)) : Prop :=
  ∃ adm : Nat → Bool, ((c.map (·.1)).Nodup → ∀ t ∈ c, adm t.1 = P t.2.1) ∧ ExactSel c metric q k adm res

/-- What the two closures return: nothing, because `C` holds (wrong dimension, empty filter), or
    the postings of a selection among the documents satisfying `P`. -/
def NilOrSel (C : Prop) (c : Content) (metric : Nat) (q : List Int) (k : Nat) (P : Nat → Bool)
    (R : List VHit) : Prop :=
  (C ∧ R = []) ∨
  ∃ res, R = addIDsToPostingsList (vecDocIDMap c) res ∧ DocSel c metric q k P res

section NilOrSel
variable {C : Prop} {c : Content} {metric : Nat} {q : List Int} {k : Nat} {P : Nat → Bool}
  {R : List VHit}

theorem NilOrSel.length_le (h : NilOrSel C c metric q k P R) : R.length ≤ k := by
  rcases h with ⟨_, rfl⟩ | ⟨res, rfl, adm, _, hE⟩
  · exact Nat.zero_le _
  · exact Nat.le_trans (addIDs_length_le _ res) hE.atMost

theorem NilOrSel.mem (h : NilOrSel C c metric q k P R) (hnd : (c.map (·.1)).Nodup) {x : VHit}
    (hx : x ∈ R) : ∃ t ∈ c, P t.2.1 = true ∧ x = vhitOf metric q t := by
  rcases h with ⟨_, rfl⟩ | ⟨res, rfl, adm, hadm, hE⟩
  · cases hx
  · obtain ⟨t, ht, _, ha, rfl⟩ := (mem_addIDs_complete c hnd metric q adm res hE.sound x).1 hx
    exact ⟨t, ht, (hadm hnd t ht).symm.trans ha, rfl⟩

theorem NilOrSel.validTopK (h : NilOrSel C c metric q k P R) (hnd : (c.map (·.1)).Nodup)
    (hC : ¬ C) :
    validTopK metric k ((c.filter (fun t => P t.2.1)).map (vhitOf metric q)) R = true := by
  rcases h with ⟨hc, _⟩ | ⟨res, rfl, adm, hadm, hE⟩
  · exact absurd hc hC
  · rw [← List.filter_congr (hadm hnd)]
    exact validTopK_of_exactSel c hnd metric q k adm res hE

end NilOrSel

section SearchThms
variable (E : Engine) (ix : VIndex)

theorem search_eq_of_dim (q : List Int) (k : Nat) (ex : List Nat) (hq : q.length = ix.dim) :
    search E ix q k ex = addIDsToPostingsList (vecDocIDMap ix.content)
      (E.searchExcl q k (vecIDsToExclude (vecDocIDMap ix.content) ex)) := by
  simp [search, searchCore, hq]

theorem search_wrong_dim (q : List Int) (k : Nat) (ex : List Nat) (hq : q.length ≠ ix.dim) :
    search E ix q k ex = [] := by
  have : ¬ ix.dim = q.length := fun h => hq h.symm
  simp [search, searchCore, this]

theorem swf_wrong_dim (numDocs : Nat) (q : List Int) (k : Nat) (ex el : List Nat) (hq : q.length ≠ ix.dim) :
    searchWithFilter E ix numDocs q k ex el = [] := by
  have : ¬ ix.dim = q.length := fun h => hq h.symm
  simp [searchWithFilter, searchWithFilterCore, this]

theorem swf_empty (numDocs : Nat) (q : List Int) (k : Nat) (ex : List Nat) :
    searchWithFilter E ix numDocs q k ex [] = [] := by
  simp [searchWithFilter, searchWithFilterCore]

theorem swf_full (numDocs : Nat) (q : List Int) (k : Nat) (ex el : List Nat) (hne : el ≠ [])
    (hfull : el.length = numDocs) : searchWithFilter E ix numDocs q k ex el = search E ix q k ex := by
  unfold searchWithFilter searchWithFilterCore search searchCore
  rw [if_neg (mt List.isEmpty_iff.1 hne), if_pos hfull]

/-- the `len(vectorIDsToInclude) == 0` shortcut agrees with what a contract-abiding engine
    answers on an empty include list -/
theorem swf_incl (hE : EngineOK E ix) (numDocs : Nat) (q : List Int) (k : Nat) (ex el : List Nat)
    (hq : q.length = ix.dim) (hne : el ≠ []) (hpart : el.length ≠ numDocs) :
    searchWithFilter E ix numDocs q k ex el = addIDsToPostingsList (vecDocIDMap ix.content)
      (E.searchIncl q k ((liveEligible ex el).flatMap (docVecIDs (vecDocIDMap ix.content)))) := by
  simp only [searchWithFilter, searchWithFilterCore, hq, ne_eq, not_true_eq_false, if_false,
    List.isEmpty_iff, hne, hpart]
  split
  · rename_i h
    rw [h, exactSel_nil_of_none ((hE q k hq).2 []) (fun _ _ => rfl)]
    rfl
  · rfl

theorem search_no_vectors (hE : EngineOK E ix) (hc : ix.content = []) (q : List Int) (k : Nat)
    (ex : List Nat) : search E ix q k ex = [] := by
  by_cases hq : q.length = ix.dim
  · rw [search_eq_of_dim E ix q k ex hq, exactSel_nil_of_none ((hE q k hq).1 _) (by simp [hc])]
    rfl
  · exact search_wrong_dim E ix q k ex hq

theorem search_sel (hE : EngineOK E ix) (q : List Int) (k : Nat) (ex : List Nat) :
    NilOrSel (q.length ≠ ix.dim) ix.content ix.metric q k (docOK (some ex) none)
      (search E ix q k ex) := by
  by_cases hq : q.length = ix.dim
  · refine Or.inr ⟨_, search_eq_of_dim E ix q k ex hq, _, ?_, (hE q k hq).1 _⟩
    intro hnd t ht
    rw [contains_excl _ (vecDocIDMap_nodup hnd) ex (entry_mem_map ht)]
    exact (Bool.and_true _).symm
  · exact Or.inl ⟨hq, search_wrong_dim E ix q k ex hq⟩

/-- the one place where the branches of the `searchWithFilter` closure are told apart -/
theorem swf_sel (hE : EngineOK E ix) (numDocs : Nat) (q : List Int) (k : Nat) (ex el : List Nat) :
    NilOrSel (q.length ≠ ix.dim ∨ el = []) ix.content ix.metric q k
      (docOK (some ex) (eligArg numDocs el)) (searchWithFilter E ix numDocs q k ex el) := by
  by_cases hne : el = []
  · exact Or.inl ⟨Or.inr hne, hne ▸ swf_empty E ix numDocs q k ex⟩
  by_cases hfull : el.length = numDocs
  · rw [swf_full E ix numDocs q k ex el hne hfull, eligArg, if_pos hfull]
    exact (search_sel E ix hE q k ex).imp (fun h => ⟨Or.inl h.1, h.2⟩) id
  by_cases hq : q.length = ix.dim
  · refine Or.inr ⟨_, swf_incl E ix hE numDocs q k ex el hq hne hfull, _, ?_, (hE q k hq).2 _⟩
    intro hnd t ht
    rw [contains_incl _ (vecDocIDMap_nodup hnd) _ (entry_mem_map ht), contains_liveEligible,
      eligArg, if_neg hfull]
    exact Bool.and_comm _ _
  · exact Or.inl ⟨Or.inl hq, swf_wrong_dim E ix numDocs q k ex el hq⟩

theorem search_topk (hnd : (ix.content.map (·.1)).Nodup) (hE : EngineOK E ix) (opt : Nat)
    (q : List Int) (k : Nat) (ex : List Nat) (hq : q.length = ix.dim) :
    validTopK ix.metric k (admissible (ix.toVecIx opt) q (some ex) none) (search E ix q k ex) = true := by
  rw [admissible_content]
  exact (search_sel E ix hE q k ex).validTopK hnd (not_not_intro hq)

theorem mem_of_full (l : List Nat) (n : Nat) (hnd : l.Nodup) (hlt : ∀ x ∈ l, x < n)
    (hlen : l.length = n) (d : Nat) (hd : d < n) : d ∈ l := by
  apply Classical.byContradiction
  intro hnot
  have hsub : l ⊆ (List.range n).erase d := by
    intro x hx
    have : x ≠ d := fun h => hnot (h ▸ hx)
    exact (List.mem_erase_of_ne this).2 (List.mem_range.2 (hlt x hx))
  have := hnd.length_le_of_subset hsub
  rw [List.length_erase_of_mem (List.mem_range.2 hd), List.length_range] at this
  omega

theorem admissible_contract (opt : Nat) (q : List Int) (ex el : List Nat) (hc : ∀ d ∈ el, d ∉ ex) :
    admissible (ix.toVecIx opt) q (some ex) (some el) = admissible (ix.toVecIx opt) q none (some el) := by
  apply admissible_congr
  intro dv _
  by_cases h : dv.1 ∈ el
  · simp [docOK, exOK, elOK, h, hc _ h]
  · simp [docOK, exOK, elOK, h]

theorem admissible_some_nil (opt : Nat) (q : List Int) (elig : Option (List Nat)) :
    admissible (ix.toVecIx opt) q (some []) elig = admissible (ix.toVecIx opt) q none elig :=
  admissible_congr _ q _ _ _ _ (fun _ _ => rfl)

end SearchThms

theorem ofVecIx_toVecIx (v : VecIx) : (VIndex.ofVecIx v).toVecIx v.opt = v := by
  cases v with
  | mk dim metric opt vecs =>
    simp only [VIndex.ofVecIx, VIndex.toVecIx, List.map_map, Function.comp_def]
    congr 1
    exact List.zipIdx_map_fst 0 vecs

theorem ofVecIx_nodup (v : VecIx) : ((VIndex.ofVecIx v).content.map (·.1)).Nodup := by
  simp only [VIndex.ofVecIx, List.map_map, Function.comp_def]
  have : (v.vecs.zipIdx.map fun x => x.2) = List.range' 0 v.vecs.length := List.zipIdx_map_snd 0 v.vecs
  rw [this]
  exact List.nodup_range'

theorem postingsCodes_eq (bits : Int → Nat) (hits : List VHit) :
    postingsCodes bits hits
      = (hits.map fun h => Gen.getVectorCode h.doc (bits h.score)).foldr (insertUniq (· < ·)) [] := by
  have hins : ∀ c l, insCode c l = insertUniq (· < ·) c l := fun c l => by
    induction l with
    | nil => rfl
    | cons a r ih => simp only [insCode, insertUniq, ih]
  induction hits with
  | nil => rfl
  | cons h t ih => rw [List.map_cons, List.foldr_cons, ← ih, ← hins]; rfl

theorem sorted_postingsCodes (bits : Int → Nat) (hits : List VHit) :
    (postingsCodes bits hits).Pairwise (· < ·) := by
  rw [postingsCodes_eq]
  exact pairwise_foldr_insertUniq strictTotal_natLt _

theorem mem_postingsCodes (bits : Int → Nat) (hits : List VHit) (x : Nat) :
    x ∈ postingsCodes bits hits ↔ ∃ h ∈ hits, x = Gen.getVectorCode h.doc (bits h.score) := by
  rw [postingsCodes_eq, mem_foldr_insertUniq, List.mem_map]
  exact exists_congr fun h => and_congr_right fun _ => eq_comm

theorem lt_code_zero_iff (c t : Nat) (ht : t < 2 ^ 32) :
    c < Gen.getVectorCode t 0 ↔ c >>> 32 < t := by
  rw [Codec.getVectorCode_eq t 0 ht (by decide), Nat.add_zero, Nat.shiftRight_eq_div_pow,
    Nat.div_lt_iff_lt_mul (by decide)]

theorem nextAtOrAfter_spec (rest : List Nat) (target : Nat) (ht : target < 2 ^ 32) :
    (∀ c r, nextAtOrAfter rest target = (some c, r) →
        ∃ pre, rest = pre ++ c :: r ∧ (∀ x ∈ pre, x >>> 32 < target) ∧ target ≤ c >>> 32) ∧
    (∀ r, nextAtOrAfter rest target = (none, r) → ∀ x ∈ rest, x >>> 32 < target) := by
  have hlt : ∀ x, decide (x < Gen.getVectorCode target 0) = true → x >>> 32 < target :=
    fun x hx => (lt_code_zero_iff x target ht).1 (of_decide_eq_true hx)
  unfold nextAtOrAfter
  cases hd : rest.dropWhile (fun c => decide (c < Gen.getVectorCode target 0)) with
  | nil =>
    exact ⟨fun c r h => (nomatch h), fun r _ x hx => hlt x (List.dropWhile_eq_nil.1 hd x hx)⟩
  | cons c' r' =>
    refine ⟨fun c r h => ?_, fun r h => (nomatch h)⟩
    obtain ⟨rfl, rfl⟩ : c' = c ∧ r' = r := by simpa using h
    obtain ⟨pre, hp, hpre, hc⟩ := List.dropWhile_eq_cons hd
    exact ⟨pre, hp, fun x hx => hlt x (hpre x hx), Nat.le_of_not_lt fun h =>
      of_decide_eq_false hc ((lt_code_zero_iff c' target ht).2 h)⟩

/-- `Next()` = `nextAtOrAfter(0)` walks the codes in order -/
theorem nextAtOrAfter_zero (rest : List Nat) : nextAtOrAfter rest 0 = (rest.head?, rest.tail) := by
  cases rest with
  | nil => simp [nextAtOrAfter]
  | cons a r =>
    have : Gen.getVectorCode 0 0 = 0 := by decide
    simp [nextAtOrAfter, this]

/-! ### the reference engine satisfies the contract -/

/-- the smaller the key the better: the distance, or the negated inner product -/
def vkey (metric : Nat) (a : Int) : Int := if metric = 0 then a else -a

theorem vbetter_eq (metric : Nat) (a b : Int) :
    vbetter metric a b = decide (vkey metric a < vkey metric b) := by
  unfold vbetter vkey
  split
  · rfl
  · exact decide_eq_decide.2 Int.neg_lt_neg_iff.symm

theorem vbetter_asymm (metric : Nat) (a b : Int) (h : vbetter metric a b = true) :
    vbetter metric b a = false := by
  rw [vbetter_eq, decide_eq_true_eq] at h
  rw [vbetter_eq, decide_eq_false_iff_not]
  exact Int.lt_asymm h

theorem vbetter_trans (metric : Nat) (a b c : Int) (h1 : vbetter metric a b = true)
    (h2 : vbetter metric b c = true) : vbetter metric a c = true := by
  rw [vbetter_eq, decide_eq_true_eq] at *
  exact Int.lt_trans h1 h2

theorem vbetter_negtrans (metric : Nat) (a b c : Int) (h1 : vbetter metric a b = false)
    (h2 : vbetter metric b c = false) : vbetter metric a c = false := by
  rw [vbetter_eq, decide_eq_false_iff_not, Int.not_lt] at *
  exact Int.le_trans h2 h1

theorem sortRes_eq (metric : Nat) (l : List (Nat × Int)) :
    sortRes metric l = l.foldr (insertAfter fun a p => vbetter metric a.2 p.2) [] := by
  have hins : ∀ p l, insertRes metric p l = insertAfter (fun a p => vbetter metric a.2 p.2) p l :=
    fun p l => by
      induction l with
      | nil => rfl
      | cons a r ih => simp only [insertRes, insertAfter, ih]
  induction l with
  | nil => rfl
  | cons a r ih => rw [List.foldr_cons, ← ih, ← hins]; rfl

theorem sortRes_perm (metric : Nat) (l : List (Nat × Int)) : (sortRes metric l).Perm l := by
  rw [sortRes_eq]
  exact perm_foldr_insertAfter l

theorem sortRes_sorted (metric : Nat) (l : List (Nat × Int)) :
    (sortRes metric l).Pairwise (fun a b => vbetter metric b.2 a.2 = false) := by
  rw [sortRes_eq]
  exact noInversion_foldr_insertAfter (R := fun a p : Nat × Int => vbetter metric a.2 p.2)
    (fun a b => vbetter_asymm metric a.2 b.2) (fun a b c => vbetter_negtrans metric a.2 b.2 c.2) l

theorem refSelect_exact (ix : VIndex) (hnd : (ix.content.map (·.1)).Nodup) (q : List Int) (k : Nat)
    (adm : Nat → Bool) : ExactSel ix.content ix.metric q k adm (refSelect ix q k adm) := by
  let B := (ix.content.filter (fun t => adm t.1)).map (fun t => (t.1, vscore ix.metric q t.2.2))
  let L := sortRes ix.metric B
  have hperm : L.Perm B := sortRes_perm _ _
  have hsorted : L.Pairwise (fun a b => vbetter ix.metric b.2 a.2 = false) := sortRes_sorted _ _
  have hBids : B.map (·.1) = (ix.content.filter (fun t => adm t.1)).map (·.1) := List.map_map
  have hres : refSelect ix q k adm = L.take k := rfl
  constructor
  · intro p hp
    rw [hres] at hp
    obtain ⟨t, ht, rfl⟩ := List.mem_map.1 (hperm.mem_iff.1 (List.mem_of_mem_take hp))
    obtain ⟨ht, ha⟩ := List.mem_filter.1 ht
    exact ⟨t.2.1, t.2.2, ht, ha, rfl⟩
  · rw [hres, List.map_take]
    apply List.Nodup.sublist (List.take_sublist _ _)
    apply (hperm.map _).symm.nodup
    rw [hBids]
    exact hnd.sublist ((List.filter_sublist).map _)
  · rw [hres, List.length_take]; exact Nat.min_le_left _ _
  · intro p hp t ht ha hout
    rw [hres] at hp hout
    have hin : (t.1, vscore ix.metric q t.2.2) ∈ L :=
      hperm.mem_iff.2 (List.mem_map.2 ⟨t, List.mem_filter.2 ⟨ht, ha⟩, rfl⟩)
    rw [← List.take_append_drop k L, List.mem_append] at hin
    rcases hin with hin | hin
    · exact absurd (List.mem_map.2 ⟨_, hin, rfl⟩) hout
    · rw [← List.take_append_drop k L, List.pairwise_append] at hsorted
      exact hsorted.2.2 p hp (t.1, vscore ix.metric q t.2.2) hin
  · rw [hres, List.length_take, hperm.length_eq]
    exact congrArg (min k) (List.length_map _)

end Zap.VecL
