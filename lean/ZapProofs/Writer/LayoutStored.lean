/-
  `Layout.decStoredDoc` (on the `ByteArray`) against its list-level twin `Writer.decodeStoredDocL`:
  what the twin's success says about the array (`twin_header`), what `decStoredDoc` does after such
  a header (`decStoredDoc_header`); Layout's array snappy decoder on the all-literals compressor;
  the unrestricted round-trip statement (no hypothesis on that decoder) is false, with proof.
-/
import ZapProofs.Writer.Bytes
import ZapProofs.Writer.Stored
import ZapProofs.Codec.Content
open Zap.Codec Zap.Layout Zap.Writer.BA Zap.Writer.Uv Zap.Writer.Stored

namespace Zap.Writer.LS

theorem uvAllGo_sim (what : String) (fuel : Nat) (bs : Bytes) : ∀ (acc : Array Nat) (ms : List Nat),
    uvAllL fuel bs = some ms → uvAll.go what fuel bs acc = .ok (acc.toList ++ ms) := by
  fun_induction uvAllL fuel bs with
  | case1 | case2 =>
    intro acc ms h
    cases h
    simp [uvAll.go, pure, Except.pure]
  | case3 fuel bs hu =>
    intro acc ms h
    rw [hu] at h
    cases h
  | case4 fuel bs v rest hu hne ih =>
    intro acc ms h
    rw [hu] at h
    obtain ⟨ms', hr, rfl⟩ := Option.map_eq_some_iff.mp h
    rw [uvAll.go, hu]
    · show uvAll.go what fuel rest (acc.push v) = _
      rw [ih _ _ hr]
      simp
    · exact hne

theorem storedGo_sim (doc : Nat) (raw : Bytes) (fuel : Nat) (g : List Nat) : ∀ (acc : Array StoredVal)
    (vals : List StoredVal), storedGroups raw fuel g = some vals →
    decStoredDoc.go doc raw.toArray fuel g acc = .ok (acc.toList ++ vals) := by
  fun_induction storedGroups raw fuel g with
  | case1 | case2 =>
    intro acc vals h
    cases h
    simp [decStoredDoc.go, pure, Except.pure]
  | case3 | case4 | case6 =>
    intro acc vals h
    cases h
  | case5 fuel fid typ o l nap rest h1 h2 ih =>
    intro acc vals h
    obtain ⟨vals', hr, rfl⟩ := Option.map_eq_some_iff.mp h
    rw [decStoredDoc.go, if_neg h1, if_neg (by simpa using h2), ih _ _ hr]
    simp

def FastAgrees (b : ByteArray) (s e : Nat) : Prop :=
  ∀ raw, snappyDecode (region b s e) = some raw → ∃ rawB, snappyFast b s e = .ok rawB ∧ ofBA rawB = raw

/-- The header of a stored-document record as both decoders read it: two uvarints at `off`
    (meta length, data length) ending at `p`, the meta `idLen :: groups` in `[p, p + ml)`. -/
structure Header (b : ByteArray) (off ml dl p idLen : Nat) (groups : List Nat) : Prop where
  uvs : ∃ p1, uv b off = .ok (ml, p1) ∧ uv b p1 = .ok (dl, p)
  fits : p + ml + dl ≤ b.size
  metas : uvAllL (ml + 1) (region b p (p + ml)) = some (idLen :: groups)
  idFits : idLen ≤ dl

theorem decStoredDoc_header (c : Ctx) (doc off ml dl p idLen : Nat) (groups : List Nat)
    (H : Header c.b off ml dl p idLen groups) :
    decStoredDoc c doc off =
      (snappyFast c.b (p + ml + idLen) (p + ml + dl)).bind fun rawB =>
        (decStoredDoc.go doc (ofBA rawB).toArray (groups.length + 1) groups #[]).bind fun vals =>
          .ok { id := region c.b (p + ml) (p + ml + idLen), vals := vals } := by
  obtain ⟨⟨p1, e1, e2⟩, hfit, h3, hid⟩ := H
  have hpm : p + ml ≤ c.b.size := Nat.le_trans (Nat.le_add_right _ _) hfit
  have hml : (region c.b p (p + ml)).length = ml := by
    rw [region_length, Nat.min_eq_left hpm, Nat.add_sub_cancel_left]
  have hua : uvAll (toString "stored doc " ++ toString doc ++ toString " meta") (region c.b p (p + ml))
      = .ok (idLen :: groups) := by
    unfold uvAll
    rw [hml]
    exact uvAllGo_sim _ _ _ #[] _ h3
  unfold decStoredDoc
  simp only [e1, e2, slice_eq c.b p ml hpm,
    slice_eq c.b (p + ml) idLen (Nat.le_trans (Nat.add_le_add_left hid _) hfit), hua, bind, Except.bind,
    if_neg (Nat.not_lt.mpr hfit), if_neg (Nat.not_lt.mpr hid)]
  rfl

theorem twin_header (b : ByteArray) (off : Nat) (sd : StoredDoc)
    (h : decodeStoredDocL (ofBA b) off = some sd) :
    ∃ ml dl p idLen groups raw, Header b off ml dl p idLen groups ∧
      storedBlockL (ofBA b) off = some (p + ml + idLen, p + ml + dl) ∧
      snappyDecode (region b (p + ml + idLen) (p + ml + dl)) = some raw ∧
      storedGroups raw (groups.length + 1) groups = some sd.vals ∧
      sd.id = region b (p + ml) (p + ml + idLen) := by
  obtain ⟨ml, r1, dl, r2, idLen, groups, raw, h1, h2, hlen, h3, hid, h4, h5, h6⟩ := decodeStoredDocL_some h
  obtain ⟨p1, e1, rfl, _, _⟩ := uv_sim b off ml r1 h1
  obtain ⟨p, e2, rfl, _, hp⟩ := uv_sim b p1 dl r2 h2
  rw [List.length_drop, ofBA_length] at hlen
  have hfit : p + ml + dl ≤ b.size := Nat.add_assoc p ml dl ▸ Nat.add_le_of_le_sub' hp hlen
  have hml : p + ml ≤ b.size := Nat.le_trans (Nat.le_add_right _ _) hfit
  rw [← region_size, region_take _ _ _ _ hml] at h3
  rw [← region_size, region_drop, region_take _ _ _ _ hfit] at h4 h6
  rw [region_drop] at h4
  rw [region_take _ _ _ _ (Nat.add_le_add_left hid _)] at h6
  refine ⟨ml, dl, p, idLen, groups, raw, ⟨⟨p1, e1, e2⟩, hfit, h3, hid⟩, ?_, h4, h5, h6⟩
  have hpos : (ofBA b).length - ((ofBA b).drop p).length = p := by
    rw [List.length_drop, ofBA_length, Nat.sub_sub_self hp]
  simp only [storedBlockL, h1, h2, hpos]
  rw [← region_size, region_take _ _ _ _ hml, h3]

theorem storedBlock_region (compress : Bytes → Bytes) (sd : StoredDoc)
    (hsz : (encodeStoredDoc compress sd).length < 2 ^ 64) (b : ByteArray) (pre post : Bytes)
    (hb : ofBA b = pre ++ encodeStoredDoc compress sd ++ post) :
    ∃ s, storedBlockL (ofBA b) pre.length = some (s, s + (compress (storedData sd.vals)).length) ∧
      s + (compress (storedData sd.vals)).length ≤ b.size ∧
      region b s (s + (compress (storedData sd.vals)).length) = compress (storedData sd.vals) := by
  obtain ⟨A, h1, h2⟩ := storedBlockL_written compress sd hsz pre post
  rw [← hb] at h1 h2
  refine ⟨A.length, h1, ?_, ?_⟩
  · rw [← ofBA_length, h2, List.length_append, List.length_append]
    exact Nat.add_le_add_left (Nat.le_add_right _ _) _
  · unfold region
    rw [h2, ← List.append_assoc, ← List.length_append, List.take_left, List.drop_left]

theorem decStoredDoc_fast_error (c : Ctx) (doc off : Nat) (sd : StoredDoc) (s e : Nat) (m : String)
    (h : decodeStoredDocL (ofBA c.b) off = some sd)
    (hblk : storedBlockL (ofBA c.b) off = some (s, e))
    (herr : snappyFast c.b s e = .error m) : decStoredDoc c doc off = .error m := by
  obtain ⟨ml, dl, p, idLen, groups, raw, H, hblk', _⟩ := twin_header c.b off sd h
  rw [hblk] at hblk'
  simp only [Option.some.injEq, Prod.mk.injEq] at hblk'
  obtain ⟨rfl, rfl⟩ := hblk'
  rw [decStoredDoc_header c doc off ml dl p idLen groups H, herr]
  rfl

def FastDecodes (compress : Bytes → Bytes) (x : Bytes) : Prop :=
  ∀ (b : ByteArray) (s : Nat), s + (compress x).length ≤ b.size →
    region b s (s + (compress x).length) = compress x →
    ∃ rawB, snappyFast b s (s + (compress x).length) = .ok rawB ∧ ofBA rawB = x

/-! ### `FastDecodes` holds for the all-literals compressor -/

theorem ofBA_push (out : ByteArray) (u : UInt8) : ofBA (out.push u) = ofBA out ++ [u.toNat] := by
  rw [ofBA_eq, ofBA_eq]
  simp [ByteArray.push]

theorem ofBA_emptyWithCapacity (n : Nat) : ofBA (ByteArray.emptyWithCapacity n) = [] := by
  rw [ofBA_eq]; rfl

/-- The main loop of `snappyFast` on a run of one-byte literals. -/
theorem loop_lit (b : ByteArray) (lim : Nat) (hlim : lim ≤ b.size)
    (body : ByteArray × Nat → R (ForInStep (ByteArray × Nat)))
    (hdone : ∀ out p, p ≥ lim → body (out, p) = .ok (.done (out, p)))
    (hstep : ∀ out p, p + 2 ≤ lim → (b.get! p).toNat = 0 →
      body (out, p) = .ok (.yield (out.push (b.get! (p + 1)), p + 2))) :
    ∀ (x : Bytes) (fuel p : Nat) (out : ByteArray), p ≤ lim →
      region b p lim = x.flatMap (fun y => [0, y]) → x.length ≤ fuel →
      ∃ out', loopN body fuel (out, p) = .ok (out', lim) ∧ ofBA out' = ofBA out ++ x := by
  intro x
  induction x with
  | nil =>
    intro fuel p out hp hr _
    obtain rfl : p = lim := Nat.le_antisymm hp ((region_eq_nil_iff b p lim hlim).mp (by simpa using hr))
    cases fuel with
    | zero => exact ⟨out, by simp [loopN, pure, Except.pure], by simp⟩
    | succ fuel => exact ⟨out, by simp [loopN, hdone out p (Nat.le_refl _), pure, Except.pure], by simp⟩
  | cons y ys ih =>
    intro fuel p out hp hr hf
    cases fuel with
    | zero => exact absurd hf (Nat.not_succ_le_zero _)
    | succ fuel =>
      obtain ⟨_, h0, hr1⟩ := region_eq_cons hr
      obtain ⟨hp2, h1, hrest⟩ := region_eq_cons hr1
      obtain ⟨out', e1, e2⟩ := ih fuel (p + 2) (out.push (b.get! (p + 1))) hp2 hrest (Nat.le_of_succ_le_succ hf)
      refine ⟨out', ?_, ?_⟩
      · simp only [loopN, hstep out p hp2 h0]
        exact e1
      · rw [e2, ofBA_push, h1]
        simp

theorem fastDecodes_snappyLit (x : Bytes) (hx : x.length ≤ 2 ^ 32) : FastDecodes snappyLit x := by
  intro b s hsz hreg
  have hul := uv64_putUvarint x.length (by omega) (x.flatMap (fun y => [0, y]))
  have hreg' : region b s (s + (snappyLit x).length)
      = putUvarint x.length ++ x.flatMap (fun y => [0, y]) := hreg
  rw [← hreg'] at hul
  have hlen : (snappyLit x).length = (putUvarint x.length).length + 2 * x.length := by
    rw [snappyLit, List.length_append, lit_length]
  obtain ⟨p0, e1, e2, e3, e4, e5⟩ := uvLim_sim b s _ _ _ hul
  -- step through the head of `snappyFast` by rewriting; unfolding its binds comes after the loop
  -- (whose body is most of the term) has been replaced by its result
  unfold snappyFast
  rw [if_neg (Nat.not_lt.mpr hsz), e1]
  show ∃ rawB, (if x.length > 2 ^ 32 then _ else _) = Except.ok rawB ∧ _
  rw [if_neg (Nat.not_lt.mpr hx), forIn_range_eq]
  generalize hL : loopN _ (s + (snappyLit x).length - s) (ByteArray.emptyWithCapacity x.length, p0) = L
  obtain ⟨out, rfl, f2⟩ : ∃ out, L = .ok (out, s + (snappyLit x).length) ∧
      ofBA out = ofBA (ByteArray.emptyWithCapacity x.length) ++ x := by
    rw [← hL]
    refine loop_lit b (s + (snappyLit x).length) hsz _ ?_ ?_ x _ p0 _ e4 e2.symm (by rw [Nat.add_sub_cancel_left]; omega)
    · intro out p hp
      exact if_pos hp
    · intro out p hp h0
      have hge : ¬ p ≥ s + (snappyLit x).length :=
        Nat.not_le.mpr (Nat.lt_of_lt_of_le (Nat.lt_add_of_pos_right Nat.two_pos) hp)
      have hlt : ¬ s + (snappyLit x).length < p + 1 + 1 := Nat.not_lt.mpr hp
      simp [h0, hge, Std.Legacy.Range.forIn_eq_forIn_range', Std.Legacy.Range.size, pure, Except.pure, hlt, bind,
        Except.bind]
  rw [ofBA_emptyWithCapacity, List.nil_append] at f2
  have hsize : out.size = x.length := by
    rw [← ofBA_length, f2]
  refine ⟨_, ?_, f2⟩
  simp only [bind, Except.bind, pure, Except.pure, hsize, ne_eq, not_true_eq_false, if_false]
  rw [ofBA_extract, hreg, snappyDecode_snappyLit, f2]
  simp

/-! ### the unrestricted statement (no hypothesis on the array snappy decoder) is false -/

/-- `snappyFast` (like Go's snappy) refuses blocks that announce more than 2^32 bytes. -/
theorem snappyFast_too_large (b : ByteArray) (s e n : Nat) (rest : Bytes) (he : e ≤ b.size)
    (hreg : region b s e = putUvarint n ++ rest) (hn : n < 2 ^ 64) (hbig : n > 2 ^ 32) :
    ∃ m, snappyFast b s e = .error m := by
  have hul := uv64_putUvarint n hn rest
  rw [← hreg] at hul
  obtain ⟨p0, e1, _⟩ := uvLim_sim b s e n rest hul
  unfold snappyFast
  rw [if_neg (Nat.not_lt.mpr he), e1]
  constructor
  show (if n > 2 ^ 32 then _ else _) = _
  rw [if_pos hbig]
  rfl

/-- The unrestricted statement for Layout's own decoder: only `snappyDecode (compress x) = some x`
    is assumed of `compress`. -/
def stored_roundtrip_layout_full : Prop :=
  ∀ (compress : Bytes → Bytes), (∀ x, snappyDecode (compress x) = some x) →
    ∀ (sd : StoredDoc), (encodeStoredDoc compress sd).length < 2 ^ 64 →
    ∀ (c : Ctx) (doc : Nat) (pre post : Bytes), ofBA c.b = pre ++ encodeStoredDoc compress sd ++ post →
      decStoredDoc c doc pre.length = .ok sd

noncomputable def bigDoc : StoredDoc :=
  { id := [], vals := [{ fid := 1, typ := 116, val := List.replicate (2 ^ 32 + 1) 0, ap := [] }] }

/-- It is false: `Layout.snappyFast` refuses a block of more than 2^32 uncompressed bytes
    (as Go's snappy does), `Codec.snappyDecode` has no such limit. -/
theorem stored_roundtrip_layout_full_false : ¬ stored_roundtrip_layout_full := by
  intro hfull
  have hdata : storedData bigDoc.vals = List.replicate (2 ^ 32 + 1) 0 := by
    unfold storedData bigDoc
    simp only [List.flatMap_cons, List.flatMap_nil, List.append_nil]
  have hcomp : (snappyLit (storedData bigDoc.vals)).length
      = (putUvarint (2 ^ 32 + 1)).length + 2 * (2 ^ 32 + 1) := by
    rw [hdata, snappyLit, List.length_append, lit_length, List.length_replicate]
  have hmeta : (storedMeta bigDoc).length
      = 1 + (1 + (1 + (1 + ((putUvarint (2 ^ 32 + 1)).length + 1)))) := by
    have h0 : putUvarint 0 = [0] := putUvarint_lt (by decide)
    have h1 : putUvarint 1 = [1] := putUvarint_lt (by decide)
    have h116 : putUvarint 116 = [116] := putUvarint_lt (by decide)
    simp only [storedMeta, bigDoc, metaVals, valMeta, List.length_replicate, putUvarints, List.length_nil,
      List.append_nil, List.flatMap_cons, List.flatMap_nil, List.cons_append, List.nil_append, h0, h1,
      h116, List.length_append, List.length_cons]
    omega
  have h5 := putUvarint_length_le (2 ^ 32 + 1)
  have hsz : (encodeStoredDoc snappyLit bigDoc).length < 2 ^ 64 := by
    have h1 := putUvarint_length_le (storedMeta bigDoc).length
    have h2 := putUvarint_length_le (bigDoc.id.length + (snappyLit (storedData bigDoc.vals)).length)
    have hid : bigDoc.id.length = 0 := rfl
    simp only [encodeStoredDoc, List.length_append]
    omega
  have hbytes : ∀ x ∈ encodeStoredDoc snappyLit bigDoc, x < 256 := by
    intro x hx
    simp only [encodeStoredDoc, storedMeta, List.mem_append] at hx
    rcases hx with (((hx | hx) | (hx | hx)) | hx) | hx
    · exact putUvarint_bytes _ x hx
    · exact putUvarint_bytes _ x hx
    · exact putUvarint_bytes _ x hx
    · exact putUvarints_bytes _ x hx
    · have hidn : bigDoc.id = [] := rfl
      rw [hidn] at hx
      cases hx
    · rw [hdata, snappyLit, List.mem_append] at hx
      rcases hx with hx | hx
      · exact putUvarint_bytes _ x hx
      · obtain ⟨y, hy, hxy⟩ := List.mem_flatMap.mp hx
        have : y = 0 := (List.mem_replicate.mp hy).2
        subst this
        simp at hxy
        omega
  obtain ⟨c, hc⟩ : ∃ c : Ctx, c.b = toBA (encodeStoredDoc snappyLit bigDoc) :=
    ⟨{ b := toBA (encodeStoredDoc snappyLit bigDoc), blobs := {}, numDocs := 1, chunkMode := 1026 }, rfl⟩
  have hb : ofBA c.b = [] ++ encodeStoredDoc snappyLit bigDoc ++ [] := by
    rw [hc, List.nil_append, List.append_nil]
    exact ofBA_toBA _ hbytes
  have hok := hfull snappyLit snappyDecode_snappyLit bigDoc hsz c 0 [] [] hb
  have htwin := decodeStoredDocL_roundtrip snappyLit snappyDecode_snappyLit bigDoc hsz [] []
  rw [← hb] at htwin
  obtain ⟨s, hblk, hsize, hreg⟩ := storedBlock_region snappyLit bigDoc hsz c.b [] [] hb
  generalize s + (snappyLit (storedData bigDoc.vals)).length = e at hblk hsize hreg
  rw [hdata, snappyLit, List.length_replicate] at hreg
  obtain ⟨m, herr⟩ := snappyFast_too_large c.b s e _ _ hsize hreg (by decide) (by decide)
  have := decStoredDoc_fast_error c 0 0 bigDoc _ _ m htwin hblk herr
  rw [show ([] : Bytes).length = 0 from rfl] at hok
  rw [this] at hok
  cases hok

end Zap.Writer.LS
