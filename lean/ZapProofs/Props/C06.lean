/-
  C06 (and the enumerator part shared with C13): the k-way enumerator yields
  the sorted union of its iterators' keys, per key one triple per iterator that
  carries it; the merged dictionary of a field has, per term, the surviving
  entries of the inputs in order, renumbered (and with location field ids
  translated by name on the re-encode path).

  Vocabulary (definitions in ZapProofs/Merge/Enumerate.lean, Fields.lean and Terms.lean; `focusOf`,
  `itsOf` and `partsOf` are `let`s of `Zap.mergeSegs` under names):
    `keysUnion its`   sorted duplicate-free union of the iterators' keys (`sortDedup`)
    `row its k`       `(its.zipIdx).filterMap (fun p => (lookup k p.1).map (fun v => (k, p.2, v)))`
    `focusOf nm segs maps`  inputs whose dictionary of field `nm` is non-empty, with their maps
    `itsOf nm focus`  their dictionary iterators
    `partsOf nm k focus`    the inputs (in order) that carry term `k`: (field table, map, postings)
    `mergeEntry same dst src e`  `e` if `same`, else `e` with location field ids translated by name
-/
import ZapProofs.Merge.Terms

namespace Zap
open MergeL

/-- For iterators that are strictly ascending by key:
    (1) the output is, key by key over the sorted union of all keys, one triple
        per iterator (ascending index) that carries the key — in particular the
        fuel of `enumerate` suffices;
    (a) that union is strictly ascending, contains exactly the iterators' keys,
        and is what deduplicating the yielded keys gives;
    (b) the triples with key `k` are exactly `(k, i, v)` for the iterators `i`
        (ascending) that contain `(k, v)`;
    (c) nothing is lost or invented — including an empty key, and whatever the
        iterators' lengths. -/
theorem enumerate_spec (its : List (List (Bytes × Nat)))
    (hs : ∀ it ∈ its, SortedLt (it.map (·.1))) :
    enumerate its = (keysUnion its).flatMap (fun k =>
        (its.zipIdx).filterMap (fun p => (lookup k p.1).map (fun v => (k, p.2, v))))
    ∧ SortedLt (keysUnion its)
    ∧ (∀ k, k ∈ keysUnion its ↔ ∃ it ∈ its, k ∈ it.map (·.1))
    ∧ ((enumerate its).map (·.1)).eraseDups = keysUnion its
    ∧ (∀ k, (enumerate its).filter (fun t => t.1 = k)
          = (its.zipIdx).filterMap (fun p => (lookup k p.1).map (fun v => (k, p.2, v))))
    ∧ (∀ k i v, (k, i, v) ∈ enumerate its ↔ ∃ it, its[i]? = some it ∧ (k, v) ∈ it) :=
  ⟨enumerate_eq its hs, sortedLt_keysUnion its, fun _ => mem_keysUnion, enumerate_keys hs,
    enumerate_filter_key hs, mem_enumerate hs⟩

/-- Empty key in iterator 1 only, iterators of different lengths, a shared key:
    both sides computed. -/
example :
    enumerate [[([97], 10), ([98], 11), ([100], 12)], [([], 20), ([98], 21)], [], [([97], 30)]]
      = [([], 1, 20), ([97], 0, 10), ([97], 3, 30), ([98], 0, 11), ([98], 1, 21), ([100], 0, 12)]
    ∧ keysUnion [[([97], 10), ([98], 11), ([100], 12)], [([], 20), ([98], 21)], [], [([97], 30)]]
      = [[], [97], [98], [100]] := by decide +kernel

/-- Sortedness is necessary: an iterator that yields an empty key *after*
    another key loses it (later rounds skip empty keys) and everything behind it. -/
example : enumerate [[([97], 1), ([], 2), ([98], 3)]] = [([97], 0, 1)] := by decide

/-- The dictionary of field `nm` in the merge result: over the sorted union of
    the inputs' terms, the representation `chooseRep` picks for the merged
    parts; terms for which nothing survives are absent. -/
theorem C06_dict (v : Bool) (m : Nat) (segs : List Seg) (drops : List (Option (List Nat)))
    (hne : newDocCount segs drops ≠ 0) (nm : Name) (hnm : nm ∈ mergedFieldNames segs)
    (hs : ∀ s ∈ segs, SortedLt ((s.dictTerms nm).map (·.1))) :
    (mergeSegs v m segs drops).1.dictTerms nm =
      (keysUnion (itsOf nm (focusOf nm segs (remapAll segs drops 0)))).filterMap (fun k =>
        (chooseRep (mergeTermParts (fieldsSameAsCoded segs) (mergedFieldNames segs)
          (partsOf nm k (focusOf nm segs (remapAll segs drops 0))))).map (fun r => (k, r))) := by
  unfold Seg.dictTerms
  rw [mergeSegs_field? v m segs drops hne, if_pos hnm]
  simp only [mergedField]
  rw [mergedKeys_eq _ _ fun (p : Seg × List (Option Nat)) hp => hs p.1 (List.of_mem_zip (mem_focusOf hp)).1]
  rfl

/-- The merged dictionary is again strictly ascending by term. -/
theorem C06_sorted (v : Bool) (m : Nat) (segs : List Seg) (drops : List (Option (List Nat)))
    (hne : newDocCount segs drops ≠ 0) (nm : Name) (hnm : nm ∈ mergedFieldNames segs)
    (hs : ∀ s ∈ segs, SortedLt ((s.dictTerms nm).map (·.1))) :
    SortedLt (((mergeSegs v m segs drops).1.dictTerms nm).map (·.1)) := by
  rw [C06_dict v m segs drops hne nm hnm hs, sortedLt_iff_pairwise, List.pairwise_map]
  refine (sortedLt_iff_pairwise.1 (sortedLt_keysUnion _)).filterMap _ fun a a' h b hb b' hb' => ?_
  obtain ⟨_, _, rfl⟩ := Option.map_eq_some_iff.1 hb
  obtain ⟨_, _, rfl⟩ := Option.map_eq_some_iff.1 hb'
  exact h

/-- Per-term content.  With `parts` the inputs (in order) that carry term `k`
    and `es` the concatenation of their surviving entries, renumbered (location
    field ids translated by name unless `fieldsSame`):
    * the term is absent from the result iff `es` is empty (all its documents deleted);
    * otherwise the stored representation denotes exactly `es` - for EVERY norm (the hypothesis
      "norm bits below 2^31" this statement used to carry hid defect D14: a lone frequency-1 hit
      whose norm bits were zero, or needed the 32nd bit, was written in the 1-hit form, which a
      reader takes for an empty list; see `C06_D14_counterexample`);
    * `es` is ascending by document number if every input's list is. -/
theorem C06_term (v : Bool) (m : Nat) (segs : List Seg) (drops : List (Option (List Nat)))
    (hne : newDocCount segs drops ≠ 0) (nm : Name) (hnm : nm ∈ mergedFieldNames segs)
    (hs : ∀ s ∈ segs, SortedLt ((s.dictTerms nm).map (·.1))) (k : Bytes) :
    let parts := partsOf nm k (focusOf nm segs (remapAll segs drops 0))
    let es := parts.flatMap (fun p => (survivors p.2.1 p.2.2.entries).map
                (mergeEntry (fieldsSameAsCoded segs) (mergedFieldNames segs) p.1))
    (lookup k ((mergeSegs v m segs drops).1.dictTerms nm) = none ↔ es = []) ∧
    (∀ r, lookup k ((mergeSegs v m segs drops).1.dictTerms nm) = some r → r.entries = es) ∧
    ((∀ s ∈ segs, ∀ r, lookup k (s.dictTerms nm) = some r → AscNat (r.entries.map (·.doc))) →
        AscNat (es.map (·.doc))) := by
  intro parts es
  have hflat : (mergeTermParts (fieldsSameAsCoded segs) (mergedFieldNames segs) parts).flatMap id = es :=
    mergeTermParts_flat _ _ _
  have hlook : lookup k ((mergeSegs v m segs drops).1.dictTerms nm)
      = chooseRep (mergeTermParts (fieldsSameAsCoded segs) (mergedFieldNames segs) parts) := by
    rw [C06_dict v m segs drops hne nm hnm hs, lookup_filterMap_keys]
    split
    · rfl
    · next hk =>
      -- a term of no input: no parts, nothing chosen
      rw [show parts = [] from partsOf_eq_nil hk]
      rfl
  refine ⟨?_, ?_, ?_⟩
  · rw [hlook, chooseRep_none_iff, hflat]
  · intro r hr
    rw [hlook] at hr
    rw [← hflat]
    exact chooseRep_entries hr
  · intro hasc
    rw [← hflat]
    -- `@`: otherwise the goal is first tested for being a function type, which unfolds `AscNat`
    refine @asc_merged _ _ _ (partsOf_mono nm k segs drops) (fun p hp => ?_)
      (partsOf_pairwise nm k segs drops)
    obtain ⟨q, hq, hl, _, _⟩ := mem_partsOf.1 hp
    exact hasc q.1 (List.of_mem_zip (mem_focusOf hq)).1 p.2.2 hl

/-- On the byte-copy path (`fieldsSame`) entries are unchanged apart from the
    document number. -/
theorem C06_same_unchanged (dst src : List Name) (e : Entry) : mergeEntry true dst src e = e := rfl

/-- Defect D14, evaluated on the choice as it was (`chooseRepD14`): with norm bits `2^31 + 5` the
    1-hit form dropped the top bit, with norm bits `0` (an analysed length of 0, or of 2^32) it wrote
    a value that readers take for an empty list - the hit was lost.  The current choice keeps both. -/
theorem C06_D14_counterexample :
    (chooseRepD14 [[⟨4, 1, 2147483653, []⟩]]).map PostRep.entries = some [⟨4, 1, 5, []⟩] ∧
    chooseRepD14 [[⟨4, 1, 0, []⟩]] = some (.oneHit 4 0) ∧
    (chooseRep [[⟨4, 1, 2147483653, []⟩]]).map PostRep.entries = some [⟨4, 1, 2147483653, []⟩] ∧
    (chooseRep [[⟨4, 1, 0, []⟩]]).map PostRep.entries = some [⟨4, 1, 0, []⟩] := by
  refine ⟨by decide, by decide, by decide, by decide⟩

/-- A single survivor that does not come from the last input carrying the term
    is written in the general form (`lastFreq` is 0 then). -/
example : chooseRep [[⟨4, 1, 7, []⟩], []] = some (.general [⟨4, 1, 7, []⟩]) := by decide

section Examples

private def e (d : Nat) : Entry := ⟨d, 1, 3, []⟩
private def el (d fid : Nat) : Entry := ⟨d, 2, 3, [⟨fid, 1, 0, 1, []⟩]⟩

/-- Field tables differ between the inputs ("b" is field 1 in `tA`, field 2 in `tB`). -/
private def tA : Seg :=
  { chunkMode := 1024, numDocs := 3,
    fields := [{ name := [95, 105, 100] }, { name := [98], terms :=
      [([], .oneHit 0 3), ([120], .general [el 0 1, el 2 1]), ([121], .oneHit 1 3)] }],
    stored := [⟨[1], []⟩, ⟨[2], []⟩, ⟨[3], []⟩] }

private def tB : Seg :=
  { chunkMode := 1024, numDocs := 2,
    fields := [{ name := [95, 105, 100] }, { name := [97] }, { name := [98], terms :=
      [([120], .general [el 1 2]), ([122], .general [e 0, e 1])] }],
    stored := [⟨[4], []⟩, ⟨[5], []⟩] }

/-- Drop document 1 of `tA`: term `y` disappears, `x` concatenates survivors of
    both inputs (field id 2 of `tB` becomes 2 = position of "b" in the merged
    table `_id, a, b`; field id 1 of `tA` becomes 2), the empty term survives
    (as a 1-hit: its single survivor comes from the last input carrying it). -/
example : (mergeSegs false 1024 [tA, tB] [some [1]]).1.dictTerms [98] =
    [([], .oneHit 0 3),
     ([120], .general [el 0 2, el 1 2, el 3 2]),
     ([122], .general [e 2, e 3])] := by decide +kernel

/-- The `es` of `C06_term` for term `x`, computed from the inputs. -/
example :
    (partsOf [98] [120] (focusOf [98] [tA, tB] (remapAll [tA, tB] [some [1]] 0))).flatMap
      (fun p => (survivors p.2.1 p.2.2.entries).map
        (mergeEntry (fieldsSameAsCoded [tA, tB]) (mergedFieldNames [tA, tB]) p.1))
      = [el 0 2, el 1 2, el 3 2]
    ∧ fieldsSameAsCoded [tA, tB] = false := by decide +kernel

example : ∀ s ∈ [tA, tB], SortedLt ((s.dictTerms [98]).map (·.1)) := by decide +kernel

end Examples

end Zap

#print axioms Zap.enumerate_spec
#print axioms Zap.C06_dict
#print axioms Zap.C06_sorted
#print axioms Zap.C06_term
#print axioms Zap.C06_same_unchanged
#print axioms Zap.C06_D14_counterexample
