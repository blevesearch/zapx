/-
  What a reader finds in the segment `buildSeg` made of a batch, from the dictionary content
  (`dict_entries`, Build/Seg); for Props/C01, Props/C02Full, Props/C03Full.  What `DocNumbers` (C02)
  and the doc values (C03) need of the dictionaries is one fact, `dict_docs_iff`: under which
  (field, term) a document is listed.  Then the doc-value data `buildSeg` writes (`docTermMap`,
  `addShapes`) and what it records for a document.
-/
import ZapProofs.Build.Seg
import ZapProofs.Read.Dv
import ZapProofs.Read.Stored

namespace Zap

theorem field?_mem {s : Seg} {n : Name} {f : FieldM} (h : s.field? n = some f) :
    f ∈ s.fields ∧ f.name = n := by
  unfold Seg.field? at h
  refine ⟨?_, by simpa using List.find?_some h⟩
  have hm := List.mem_of_find?_eq_some h
  unfold Seg.loadedFields at hm
  split at hm
  · exact List.mem_of_mem_drop hm
  · exact hm

theorem dictTerms_cases (s : Seg) (n : Name) :
    s.dictTerms n = [] ∨ ∃ f ∈ s.fields, f.name = n ∧ s.dictTerms n = f.terms := by
  unfold Seg.dictTerms
  cases h : s.field? n with
  | none => exact Or.inl rfl
  | some f => exact Or.inr ⟨f, (field?_mem h).1, (field?_mem h).2, rfl⟩

/-- `postingsList` reads `dictTerms`. -/
theorem postingsList_eq (s : Seg) (n : Name) (t : Bytes) (ex : Option (List Nat)) :
    s.postingsList n t ex =
      match lookup t (s.dictTerms n) with
      | none => .ok { rep := none, except := ex, chunkSize := 0, names := s.fields.map (·.name) }
      | some (.oneHit d nb) =>
        .ok { rep := some (.oneHit d nb), except := ex, chunkSize := 0, names := s.fields.map (·.name) }
      | some (.general es) =>
        match Gen.getChunkSize s.chunkMode es.length s.numDocs with
        | .ok cs => .ok { rep := some (.general es), except := ex, chunkSize := cs, names := s.fields.map (·.name) }
        | .error e => .error e := by
  unfold Seg.postingsList Seg.dictTerms
  cases s.field? n <;> rfl

theorem modeOK_lookup {mode : Nat} {s : Seg} {n : Name} {t : Bytes} {r : PostRep}
    (hl : lookup t (s.dictTerms n) = some r) :
    modeOK mode s = true → ∃ cs, Gen.getChunkSize mode r.docs.length s.numDocs = .ok cs := by
  intro h
  rcases dictTerms_cases s n with h0 | ⟨f, hf, _, hft⟩
  · rw [h0] at hl; cases hl
  · rw [hft] at hl
    have h1 := List.all_eq_true.1 (List.all_eq_true.1 h f hf) _ (mem_of_lookup_eq_some hl)
    cases hcs : Gen.getChunkSize mode r.docs.length s.numDocs with
    | ok cs => exact ⟨cs, rfl⟩
    | error e => simp only [hcs] at h1; cases h1

theorem buildSeg_field?_self (vectors : Bool) (mode : Nat) (b : Batch) (hne : b ≠ [])
    (f : FieldM) (hf : f ∈ (buildSeg vectors mode b).fields) :
    (buildSeg vectors mode b).field? f.name = some f := by
  obtain ⟨n, hn, rfl⟩ := List.mem_map.mp (buildSeg_fields_eq vectors mode b ▸ hf)
  exact (buildSeg_field? vectors mode b hne n).trans (if_pos hn)

theorem buildSeg_dictTerms_self (vectors : Bool) (mode : Nat) (b : Batch) (hne : b ≠ [])
    (f : FieldM) (hf : f ∈ (buildSeg vectors mode b).fields) :
    (buildSeg vectors mode b).dictTerms f.name = f.terms := by
  unfold Seg.dictTerms
  rw [buildSeg_field?_self vectors mode b hne f hf]

theorem buildSeg_dictTerms_sorted (vectors : Bool) (mode : Nat) (b : Batch) (n : Name) :
    SortedLt (((buildSeg vectors mode b).dictTerms n).map (·.1)) := by
  rcases dictTerms_cases (buildSeg vectors mode b) n with h | ⟨f, hf, _, h⟩
  · rw [h]; trivial
  · rw [h]; exact buildSeg_terms_sorted vectors mode b hf

/-- A term of the built segment has at most one posting per document. -/
theorem buildSeg_card_le (vectors : Bool) (mode : Nat) (b : Batch) (hwf : Spec.WF b)
    (f : FieldM) (hf : f ∈ (buildSeg vectors mode b).fields) (p : Bytes × PostRep) (hp : p ∈ f.terms) :
    p.2.docs.length ≤ b.length := by
  by_cases hne : b = []
  · subst hne
    rw [buildSeg_nil_terms vectors mode hf] at hp
    cases hp
  · obtain ⟨t, r⟩ := p
    have hl := buildSeg_dictTerms_self vectors mode b hne f hf ▸
      lookup_eq_some_of_mem (buildSeg_terms_sorted vectors mode b hf).nodup hp
    rcases dict_entries vectors mode b hwf f.name t with ⟨hn, _⟩ | ⟨es, hes, hpost, _⟩
    · rw [hn] at hl; cases hl
    · obtain rfl : r = .general es := Option.some.inj (hl.symm.trans hes)
      rw [PostRep.docs, List.length_map, ← List.length_map (f := Spec.hitOfEntry (fieldTable b)), hpost]
      exact postings_length_le vectors b f.name t

theorem Stored.dict_docs_iff (v : Bool) (mode : Nat) (b : Batch) (hwf : Spec.WF b) (n : Name) (t : Bytes)
    (k : Nat) :
    (∃ r, lookup t ((buildSeg v mode b).dictTerms n) = some r ∧ k ∈ r.docs) ↔
      ∃ h : k < b.length, Spec.hasTerm t (Spec.insts v b[k] n) = true := by
  rw [← mem_postings_doc]
  rcases dict_entries v mode b hwf n t with ⟨hl, h⟩ | ⟨es, hl, h, _⟩
  · simp [hl, h]
  · -- the entries are the specified postings, document by document
    simp [hl, ← h, PostRep.docs, Function.comp_def, Spec.hitOfEntry]

namespace Dv
open Zap.Stored

theorem includeDocValues_mem (b : Batch) (n : Name) (h : includeDocValues b n = true) : n ∈ fieldTable b := by
  simp only [includeDocValues, List.any_eq_true, Bool.and_eq_true, decide_eq_true_eq] at h
  obtain ⟨d, hd, f, hf, hname, _⟩ := h
  exact hname ▸ names_in_table b d hd f (mem_visitOrder.mpr hf)

/-- The common form of `docTermMap` and `addShapes`: one entry for each key with a non-empty
    list. -/
theorem recorded_keyed (g : Nat → List Bytes) (doc : Nat) {ks : List Nat} (hn : ks.Nodup) :
    recorded ((ks.map (fun k => (k, g k))).filter (fun p => !p.2.isEmpty)) doc
      = if doc ∈ ks then g doc else [] := by
  unfold recorded
  rw [← lookup_eq_find?, lookup_filter _ _ (by simpa [Function.comp_def] using hn), lookup_map_keys]
  split
  · cases g doc <;> rfl
  · rfl

theorem recorded_docTermMap (N : Nat) (terms : List (Bytes × List Entry)) (doc : Nat) :
    recorded (docTermMap N terms) doc =
      if doc < N then (terms.filter (fun p => p.2.any (·.doc = doc))).map (·.1) else [] := by
  rw [docTermMap, recorded_keyed _ doc List.nodup_range]
  simp only [List.mem_range]

theorem mem_docTerms_iff {terms : List (Bytes × List Entry)} (hnd : (terms.map (·.1)).Nodup)
    (t : Bytes) (doc : Nat) :
    t ∈ (terms.filter (fun p => p.2.any (·.doc = doc))).map (·.1) ↔
      ∃ r, lookup t (terms.map (fun p => (p.1, PostRep.general p.2))) = some r ∧ doc ∈ r.docs := by
  rw [lookup_map_val (fun _ es => PostRep.general es)]
  have hany (es : List Entry) : es.any (·.doc = doc) = true ↔ doc ∈ (PostRep.general es).docs := by
    simp only [PostRep.docs, List.any_eq_true, decide_eq_true_eq, List.mem_map]
  constructor
  · intro h
    obtain ⟨⟨t', es⟩, hm, rfl⟩ := List.mem_map.1 h
    obtain ⟨hm, hd⟩ := List.mem_filter.1 hm
    exact ⟨.general es, by rw [lookup_eq_some_of_mem hnd hm]; rfl, (hany es).1 hd⟩
  · rintro ⟨r, hl, hd⟩
    obtain ⟨es, hes, rfl⟩ := Option.map_eq_some_iff.1 hl
    exact List.mem_map.2 ⟨(t, es), List.mem_filter.2 ⟨mem_of_lookup_eq_some hes, (hany es).2 hd⟩, rfl⟩

theorem keyed_shape {β : Type} (g : Nat → List β) (N : Nat) :
    ((((List.range N).map (fun k => (k, g k))).filter (fun p => !p.2.isEmpty)).map (·.1)).Pairwise (· < ·) ∧
    ∀ p ∈ ((List.range N).map (fun k => (k, g k))).filter (fun p => !p.2.isEmpty), p.1 < N ∧ p.2 ≠ [] := by
  constructor
  · rw [List.pairwise_map]
    refine List.Pairwise.sublist List.filter_sublist ?_
    rw [List.pairwise_map]
    exact List.pairwise_lt_range
  · intro p hp
    obtain ⟨hm, hne⟩ := List.mem_filter.mp hp
    obtain ⟨k, hk, rfl⟩ := List.mem_map.mp hm
    exact ⟨List.mem_range.mp hk, by simpa using hne⟩

theorem docTermMap_shape (N : Nat) (terms : List (Bytes × List Entry)) :
    ((docTermMap N terms).map (·.1)).Pairwise (· < ·) ∧
    ∀ p ∈ docTermMap N terms, p.1 < N ∧ p.2 ≠ [] :=
  keyed_shape (fun n => (terms.filter (fun p => p.2.any (·.doc = n))).map (·.1)) N

theorem foldl_shapeStep (n : Name) (l : List FieldIn) (acc : Option Bytes) :
    l.foldl (shapeStep n) acc
      = (((l.filter (fun f => f.kind == .fld && f.name = n)).filterMap (·.shape)).getLast?).or acc := by
  induction l using List.rev_induction with
  | nil => rfl
  | snoc l f ih =>
    rw [List.foldl_append, ih, List.filter_append, List.filterMap_append, List.foldl_cons,
      List.foldl_nil, shapeStep]
    by_cases hc : f.kind = .fld ∧ f.name = n
    · rw [if_pos hc, List.filter_cons_of_pos (by simpa using hc)]
      cases hs : f.shape <;> simp [hs]
    · rw [if_neg hc, List.filter_cons_of_neg (by simpa using hc)]
      simp

theorem extraDocValue_eq (d : DocIn) (n : Name) : extraDocValue d n = Spec.shapeOf d n := by
  unfold extraDocValue Spec.shapeOf DocIn.visitOrder
  rw [foldl_shapeStep, Option.or_none, List.filter_append, List.filter_filter, List.filter_filter]
  -- no composite is an ordinary field, and an ordinary field is not a composite
  rw [List.filter_eq_nil_iff.2 (fun a _ => by cases a.kind <;> cases decide (a.name = n) <;> decide),
    List.nil_append,
    List.filter_congr (q := fun f => f.kind == .fld && f.name = n)
      (fun a _ => by cases a.kind <;> cases decide (a.name = n) <;> rfl)]

theorem recorded_addShapes (b : Batch) (n : Name) (dtm : List (Nat × List Bytes)) (doc : Nat) :
    recorded (addShapes b n dtm) doc = if doc < b.length then recorded dtm doc ++ extraAt b n doc else [] := by
  rw [addShapes, recorded_keyed _ doc List.nodup_range]
  simp only [List.mem_range, recorded]

theorem addShapes_shape (b : Batch) (n : Name) (dtm : List (Nat × List Bytes)) :
    ((addShapes b n dtm).map (·.1)).Pairwise (· < ·) ∧
    ∀ p ∈ addShapes b n dtm, p.1 < b.length ∧ p.2 ≠ [] :=
  keyed_shape (fun k => ((dtm.find? (·.1 = k)).map (·.2)).getD [] ++ extraAt b n k) b.length

theorem addShapes_mem_of_extra (b : Batch) (n : Name) (dtm : List (Nat × List Bytes)) (doc : Nat)
    (hdoc : doc < b.length) (h : extraAt b n doc ≠ []) :
    (doc, recorded dtm doc ++ extraAt b n doc) ∈ addShapes b n dtm := by
  unfold addShapes recorded
  refine List.mem_filter.mpr ⟨List.mem_map.mpr ⟨doc, List.mem_range.mpr hdoc, rfl⟩, ?_⟩
  cases hx : extraAt b n doc with
  | nil => exact absurd hx h
  | cons a as => simp

theorem buildSeg_recorded (v : Bool) (mode : Nat) (b : Batch) (hwf : Spec.WF b) {f : FieldM}
    (hf : f ∈ (buildSeg v mode b).fields) {terms : List (Bytes × List Entry)}
    (hterms : f.terms = terms.map (fun t => (t.1, PostRep.general t.2)))
    (hincl : includeDocValues b f.name = true) (doc : Nat) :
    recorded (addShapes b f.name (docTermMap b.length terms)) doc =
      Spec.docValues v b f.name doc := by
  rw [recorded_addShapes, recorded_docTermMap]
  simp only [Spec.docValues, hincl, if_true]
  by_cases hdoc : doc < b.length
  · have hext : extraAt b f.name doc = (Spec.shapeOf b[doc] f.name).toList := by
      unfold extraAt; rw [List.getElem?_eq_getElem hdoc]; simp only [extraDocValue_eq]
    rw [if_pos hdoc, if_pos hdoc, List.getElem?_eq_getElem hdoc, hext]
    refine congrArg (· ++ _) ?_
    -- both term lists are strictly ascending: compare their members, through the dictionary
    have hs : SortedLt (terms.map (·.1)) := by
      have := buildSeg_terms_sorted v mode b hf
      rwa [hterms, List.map_map] at this
    apply SortedLt.ext (hs.map_filter _) (sortedLt_sortDedup _)
    intro t
    rw [mem_docTerms_iff hs.nodup, ← hterms,
      ← buildSeg_dictTerms_self v mode b (includeDocValues_ne_nil hincl) f hf,
      dict_docs_iff v mode b hwf, mem_sortDedup]
    simp only [hasTerm_iff, List.mem_flatMap]
    exact ⟨fun ⟨_, h⟩ => h, fun h => ⟨hdoc, h⟩⟩
  · rw [if_neg hdoc, List.getElem?_eq_none (Nat.le_of_not_lt hdoc)]

theorem buildSeg_fieldOut (v : Bool) (mode : Nat) (b : Batch) (hwf : Spec.WF b) (doc : Nat)
    (n : Name) :
    fieldOut (buildSeg v mode b) doc n = (Spec.docValues v b n doc).map (fun t => (n, t)) := by
  rw [fieldOut_eq_find]
  cases hfind : (buildSeg v mode b).fields.find? (·.name = n) with
  | none =>
    -- unknown name: not in the table, hence no doc values specified
    have hnot : includeDocValues b n = false := by
      cases hi : includeDocValues b n with
      | false => rfl
      | true =>
        have hm := includeDocValues_mem b n hi
        rw [← buildSeg_names v mode b] at hm
        obtain ⟨f, hfm, hname⟩ := List.mem_map.mp hm
        simpa [hname] using List.find?_eq_none.mp hfind f hfm
    simp [Spec.docValues, hnot]
  | some f =>
    obtain rfl : f.name = n := by simpa using List.find?_some hfind
    have hf := List.mem_of_find?_eq_some hfind
    obtain ⟨terms, hterms, hdv⟩ := buildSeg_field_shape hf
    dsimp only
    rw [hdv]
    cases hincl : includeDocValues b f.name with
    | true => simp only [if_true, buildSeg_recorded v mode b hwf hf hterms hincl]
    | false => simp [Spec.docValues, hincl]

end Dv
end Zap
