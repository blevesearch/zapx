/-
  C05: merge renumbering.  Survivors of a merge get consecutive new numbers in
  segment-then-document order, dropped documents get the sentinel (`none`), the
  new count is the number of survivors, stored documents follow their new
  numbers with field ids translated by name, and the merged field table is
  `_id` followed by the sorted union of the inputs' field names.
-/
import ZapProofs.Merge.Fields

namespace Zap
open MergeL

/-! ### Renumbering (`mergeStoredAndRemap`) -/

theorem remapSeg_spec (n : Nat) (drops : Option (List Nat)) (start : Nat) :
    remapSeg n drops start =
      ((List.range n).map (fun d => if isDropped drops d then none
          else some (start + ((List.range d).filter (fun x => !isDropped drops x)).length)),
        start + ((List.range n).filter (fun x => !isDropped drops x)).length) :=
  remapSeg_eq n drops start

theorem remapAll_spec (segs : List Seg) (drops : List (Option (List Nat))) (i d : Nat)
    (hi : i < segs.length) (hd : d < segs[i].numDocs) :
    ((remapAll segs drops 0).getD i []).getD d none
      = Spec.newNum (segs.map (·.numDocs)) drops i d := by
  rw [remapAll_getD segs drops 0 i hi, List.getD_map_range _ _ hd, Nat.zero_add, newNum_eq]

/-- The map list has one entry per segment, each as long as the segment. -/
theorem remapAll_shape (segs : List Seg) (drops : List (Option (List Nat))) :
    (remapAll segs drops 0).length = segs.length ∧
    ∀ i (hi : i < segs.length), ((remapAll segs drops 0).getD i []).length = segs[i].numDocs := by
  refine ⟨remapAll_length segs drops 0, fun i hi => ?_⟩
  rw [remapAll_getD segs drops 0 i hi, List.length_map, List.length_range]

/-! ### New document count (`computeNewDocCount`) -/

/-- `computeNewDocCount` = number of survivors, provided every drop list only
    names existing documents (`dropsInRange`, a decidable predicate; entries of
    `drops` beyond its length count as nil; duplicates in a list are harmless,
    the model takes `eraseDups` as a bitmap cardinality does). -/
theorem newDocCount_eq (segs : List Seg) (drops : List (Option (List Nat)))
    (hrange : dropsInRange segs drops = true) :
    newDocCount segs drops = Spec.survivorCount (segs.map (·.numDocs)) drops := by
  rw [newDocCount_eq_sizes, newDocCount_fold segs drops 0 segs.length (Nat.le_refl _) hrange, Nat.zero_add,
    survivorCount_eq, List.length_map]

theorem newNum_lt_newDocCount {segs : List Seg} {drops : List (Option (List Nat))}
    (hrange : dropsInRange segs drops = true) {i d k : Nat} (hi : i < segs.length)
    (hd : d < segs[i].numDocs) (hk : Spec.newNum (segs.map (·.numDocs)) drops i d = some k) :
    k < newDocCount segs drops := by
  rw [newDocCount_eq segs drops hrange]
  refine newNum_lt_count (by rw [List.length_map]; exact hi) ?_ hk
  rw [List.getD_eq_getElem?_getD, List.getElem?_map, List.getElem?_eq_getElem hi]
  exact hd

/-- The range hypothesis is necessary: a drop list naming a non-existent
    document makes the coded count (Σ numDocs − Σ |drops|) too small. -/
example :
    let segs : List Seg := [{ chunkMode := 1, numDocs := 2, fields := [], stored := [] }]
    dropsInRange segs [some [5]] = false ∧
    newDocCount segs [some [5]] = 1 ∧
    Spec.survivorCount (segs.map (·.numDocs)) [some [5]] = 2 := by decide

/-- Listing the new numbers of the survivors in segment-then-document order
    gives exactly `0, 1, …, count-1`. -/
theorem C05_consecutive (sizes : List Nat) (drops : List (Option (List Nat))) :
    (List.range sizes.length).flatMap (fun i =>
        (List.range (sizes.getD i 0)).filterMap (fun d => Spec.newNum sizes drops i d))
      = List.range (Spec.survivorCount sizes drops) := by
  rw [survivorCount_eq]; exact consecutive_upto sizes drops sizes.length

/-- Renumbering is a bijection between surviving (segment, document) pairs and
    `[0, count)`, strictly monotone in segment-then-document order; dropped
    documents (and only those) get the sentinel. -/
theorem C05_bijection (sizes : List Nat) (drops : List (Option (List Nat))) :
    -- dropped ⇔ sentinel
    (∀ i d, Spec.newNum sizes drops i d = none ↔ isDropped (drops.getD i none) d = true) ∧
    -- range
    (∀ i d k, i < sizes.length → d < sizes.getD i 0 → Spec.newNum sizes drops i d = some k →
        k < Spec.survivorCount sizes drops) ∧
    -- strictly monotone in (segment, document) order, hence injective
    (∀ i d k i' d' k', d < sizes.getD i 0 →
        Spec.newNum sizes drops i d = some k → Spec.newNum sizes drops i' d' = some k' →
        (i < i' ∨ (i = i' ∧ d < d')) → k < k') ∧
    (∀ i d i' d' k, d < sizes.getD i 0 → d' < sizes.getD i' 0 →
        Spec.newNum sizes drops i d = some k → Spec.newNum sizes drops i' d' = some k →
        i = i' ∧ d = d') ∧
    -- onto
    (∀ k, k < Spec.survivorCount sizes drops →
        ∃ i d, i < sizes.length ∧ d < sizes.getD i 0 ∧ Spec.newNum sizes drops i d = some k) := by
  refine ⟨newNum_none_iff sizes drops, ?_, ?_, ?_, ?_⟩
  · intro i d k hi hd h; exact newNum_lt_count hi hd h
  · intro i d k i' d' k' hd h h' hlt; exact newNum_strictMono hd h h' hlt
  · intro i d i' d' k hd hd' h h'
    -- neither pair comes before the other (that would give `k < k`)
    have hlt := fun hlt => Nat.lt_irrefl k (newNum_strictMono hd h h' hlt)
    have hgt := fun hgt => Nat.lt_irrefl k (newNum_strictMono hd' h' h hgt)
    have hi : i = i' := Nat.le_antisymm (Nat.not_lt.1 (mt Or.inl hgt)) (Nat.not_lt.1 (mt Or.inl hlt))
    exact ⟨hi, Nat.le_antisymm (Nat.not_lt.1 fun hh => hgt (Or.inr ⟨hi.symm, hh⟩))
      (Nat.not_lt.1 fun hh => hlt (Or.inr ⟨hi, hh⟩))⟩
  · intro k hk; exact newNum_surj hk

/-! ### `mergeToWriter`: count, maps, stored documents -/

theorem C05_count (v : Bool) (m : Nat) (segs : List Seg) (drops : List (Option (List Nat)))
    (hrange : dropsInRange segs drops = true) :
    (mergeSegs v m segs drops).1.numDocs = Spec.survivorCount (segs.map (·.numDocs)) drops := by
  rw [mergeSegs_numDocs, newDocCount_eq segs drops hrange]

theorem C05_maps (v : Bool) (m : Nat) (segs : List Seg) (drops : List (Option (List Nat))) :
    (mergeSegs v m segs drops).2 = remapAll segs drops 0 := by
  by_cases h : newDocCount segs drops = 0
  · rw [mergeSegs_zero v m segs drops h]
  · rw [mergeSegs_eq v m segs drops h]

/-- Zero survivors: an empty segment with only the `_id` record (which the
    reader then does not see) - and still one map per input (`C05_maps` has no hypothesis; before
    the repair of defect D15 no map came back in this case, against the property's "also when
    nothing survives"). -/
theorem C05_zero (v : Bool) (m : Nat) (segs : List Seg) (drops : List (Option (List Nat)))
    (h0 : newDocCount segs drops = 0) :
    (mergeSegs v m segs drops).1.numDocs = 0 ∧
    (mergeSegs v m segs drops).1.stored = [] ∧
    (mergeSegs v m segs drops).1.fieldNames = [] ∧
    (∀ nm, (mergeSegs v m segs drops).1.dictTerms nm = []) ∧
    (mergeSegs v m segs drops).2 = remapAll segs drops 0 := by
  have hz := mergeSegs_zero v m segs drops h0
  have h1 : (mergeSegs v m segs drops).1.numDocs = 0 := by rw [hz]
  have h2 : (mergeSegs v m segs drops).1.fields.length ≤ 1 := by
    rw [hz, List.length_map, List.length_take]; exact Nat.min_le_left _ _
  have hl : (mergeSegs v m segs drops).1.loadedFields = [] := by
    simp only [Seg.loadedFields, h1, if_true, List.drop_eq_nil_iff]; exact h2
  refine ⟨h1, by rw [hz], ?_, ?_, by rw [hz]⟩
  · simp only [Seg.fieldNames, hl, List.map_nil]
  · intro nm; simp only [Seg.dictTerms, Seg.field?, hl, List.find?_nil]

/-- Stored documents follow their new numbers; field ids are translated by
    name, so what `VisitStoredFields` reports (names, types, values, array
    positions) is unchanged.
    Hypotheses: drop lists in range; each input has one stored record per
    document; stored field ids are valid in their own segment. -/
theorem C05_stored (v : Bool) (m : Nat) (segs : List Seg) (drops : List (Option (List Nat)))
    (hrange : dropsInRange segs drops = true)
    (hlen : ∀ s ∈ segs, s.stored.length = s.numDocs)
    (hfid : ∀ s ∈ segs, ∀ sd ∈ s.stored, ∀ x ∈ sd.vals, x.fid < s.fields.length)
    (i d k : Nat) (hi : i < segs.length) (hd : d < segs[i].numDocs)
    (hk : Spec.newNum (segs.map (·.numDocs)) drops i d = some k) :
    (mergeSegs v m segs drops).1.storedAll k = segs[i].storedAll d := by
  have hkc := newNum_lt_newDocCount hrange hi hd hk
  have hne : newDocCount segs drops ≠ 0 := Nat.ne_of_gt (Nat.zero_lt_of_lt hkc)
  have hmem : segs[i] ∈ segs := List.getElem_mem hi
  have hdl : d < segs[i].stored.length := by rw [hlen _ hmem]; exact hd
  rw [← remapAll_spec segs drops i d hi hd] at hk
  -- the stored record: that of document `d`, field ids translated
  rw [mergeSegs_eq v m segs drops hne]
  unfold Seg.storedAll
  rw [if_pos hkc, if_pos hd, mergedStored_get (mergedFieldNames segs) segs drops hlen i d k hi hdl hk,
    List.getElem?_eq_getElem hdl]
  simp only [trDoc, List.map_map]
  refine congrArg (_ :: ·) ?_
  apply List.map_congr_left
  intro x hx
  -- its field ids name the same fields as before
  have hx' : x.fid < segs[i].fields.length :=
    hfid _ hmem _ (List.getElem_mem hdl) x hx
  have hname : segs[i].nameOf x.fid ∈ mergedFieldNames segs := by
    rw [(mergedFieldNames_props segs).2.2.1]
    refine Or.inr ⟨segs[i], hmem, ?_⟩
    have hnz : segs[i].numDocs ≠ 0 := Nat.ne_of_gt (Nat.zero_lt_of_lt hd)
    simp only [Seg.fieldNames, Seg.loadedFields, if_neg hnz, Seg.nameOf, List.mem_map]
    exact ⟨segs[i].fields[x.fid], List.getElem_mem hx', by simp [List.getD_eq_getElem?_getD, hx']⟩
  simp only [Function.comp, Seg.nameOf] at hname ⊢
  have hF : ∀ nm, (mergedField v segs (remapAll segs drops 0) nm).name = nm := fun _ => rfl
  rw [List.getD_eq_getElem?_getD, List.getElem?_map, getElem?_fieldIdOf hname, Option.map_some,
    Option.getD_some, hF]

/-! ### Field union (`mergeFields`) -/

/-- `_id` first, the rest strictly ascending (hence without duplicates and
    without `_id`), membership = union of the inputs' field names ∪ {`_id`}. -/
theorem mergedFieldNames_spec (segs : List Seg) :
    (mergedFieldNames segs).head? = some idName ∧
    SortedLt (mergedFieldNames segs).tail ∧
    (∀ n, n ∈ mergedFieldNames segs ↔ n = idName ∨ ∃ s ∈ segs, n ∈ s.fieldNames) ∧
    idName ∉ (mergedFieldNames segs).tail :=
  mergedFieldNames_props segs

/-- `fieldsSame` as coded compares only inside the loop over a segment's
    fields: every segment with at least one field has exactly segment 0's
    field list; a segment without fields is never compared. -/
theorem fieldsSame_sound (s0 : Seg) (rest : List Seg)
    (h : fieldsSameAsCoded (s0 :: rest) = true) :
    ∀ s ∈ s0 :: rest, s.fieldNames ≠ [] → s.fieldNames = s0.fieldNames := by
  intro s hs hne
  simp only [fieldsSameAsCoded, List.all_eq_true] at h
  have hs' := h s hs
  have hlen : s0.fieldNames.length = s.fieldNames.length := by
    cases hf : s.fieldNames with
    | nil => exact absurd hf hne
    | cons a t =>
      have := hs' (a, 0) (by rw [hf]; simp [List.zipIdx_cons])
      simp only [Bool.and_eq_true, decide_eq_true_eq] at this
      rw [← hf]; exact this.1
  apply List.ext_getElem hlen.symm
  intro i h1 h2
  have := hs' (s.fieldNames[i]'h1, i) (List.mem_zipIdx_iff_getElem?.2 (List.getElem?_eq_getElem h1))
  simp only [Bool.and_eq_true, decide_eq_true_eq] at this
  rw [← this.2, List.getD_eq_getElem?_getD, List.getElem?_eq_getElem h2]
  rfl

/-- A segment without (visible) fields has no dictionaries, so it contributes
    nothing to the byte-copy path that `fieldsSame` enables. -/
theorem fieldsSame_fieldless_harmless (s : Seg) (h : s.fieldNames = []) (nm : Name) :
    s.dictTerms nm = [] := by
  have : s.loadedFields = [] := by simpa [Seg.fieldNames] using h
  simp [Seg.dictTerms, Seg.field?, this]

section Examples

private def sA : Seg :=
  { chunkMode := 1024, numDocs := 3,
    fields := [{ name := idName }, { name := strBytes "b" }, { name := strBytes "a" }],
    stored := [⟨[1], [⟨1, 116, [7], []⟩]⟩, ⟨[2], [⟨2, 116, [8], [0]⟩]⟩, ⟨[3], []⟩] }

private def sB : Seg :=
  { chunkMode := 1024, numDocs := 2,
    fields := [{ name := idName }, { name := strBytes "c" }, { name := strBytes "a" }],
    stored := [⟨[4], [⟨2, 116, [9], []⟩]⟩, ⟨[5], [⟨1, 116, [10], []⟩, ⟨2, 110, [11], []⟩]⟩] }

private def drops1 : List (Option (List Nat)) := [some [1, 1]]   -- shorter than segs; duplicate entry

example : dropsInRange [sA, sB] drops1 = true := by decide
example : remapAll [sA, sB] drops1 0 = [[some 0, none, some 1], [some 2, some 3]] := by decide
example : (List.range 3).map (Spec.newNum [3, 2] drops1 0) = [some 0, none, some 1]
    ∧ (List.range 2).map (Spec.newNum [3, 2] drops1 1) = [some 2, some 3] := by decide
example : newDocCount [sA, sB] drops1 = 4 ∧ Spec.survivorCount [3, 2] drops1 = 4 := by decide
example : mergedFieldNames [sA, sB] = [idName, strBytes "a", strBytes "b", strBytes "c"] := by decide +kernel
example : fieldsSameAsCoded [sA, sB] = false ∧ fieldsSameAsCoded [sA, sA] = true := by decide +kernel

/-- `fieldsSame` holds although the second segment's field list differs
    (it is empty: an empty segment whose only record is not seen). -/
example :
    let e : Seg := { chunkMode := 1024, numDocs := 0, fields := [{ name := idName }], stored := [] }
    fieldsSameAsCoded [sA, e] = true ∧ e.fieldNames ≠ sA.fieldNames := by decide +kernel

/-- Hypotheses of `C05_stored` hold for this data, and both sides agree:
    document 2 of `sA` becomes 1, document 1 of `sB` becomes 3 (its field ids
    1 ("c") and 2 ("a") become 3 and 1). -/
example : (∀ s ∈ [sA, sB], s.stored.length = s.numDocs) ∧
    (∀ s ∈ [sA, sB], ∀ sd ∈ s.stored, ∀ x ∈ sd.vals, x.fid < s.fields.length) := by decide
example : (mergeSegs false 1024 [sA, sB] drops1).1.numDocs = 4 := by decide +kernel
example : (mergeSegs false 1024 [sA, sB] drops1).1.stored =
    [⟨[1], [⟨2, 116, [7], []⟩]⟩, ⟨[3], []⟩, ⟨[4], [⟨1, 116, [9], []⟩]⟩,
     ⟨[5], [⟨3, 116, [10], []⟩, ⟨1, 110, [11], []⟩]⟩] := by decide +kernel
example : (mergeSegs false 1024 [sA, sB] drops1).1.storedAll 3 = sB.storedAll 1
    ∧ sB.storedAll 1 = [⟨idName, 116, [5], []⟩, ⟨strBytes "c", 116, [10], []⟩, ⟨strBytes "a", 110, [11], []⟩] := by
  decide +kernel
example : (mergeSegs false 1024 [sA, sB] [some [0, 1, 2], some [0, 1]]).1.fields = [{ name := idName }]
    ∧ (mergeSegs false 1024 [sA, sB] [some [0, 1, 2], some [0, 1]]).1.fieldNames = [] := by decide +kernel

end Examples

end Zap

#print axioms Zap.remapSeg_spec
#print axioms Zap.remapAll_spec
#print axioms Zap.remapAll_shape
#print axioms Zap.newDocCount_eq
#print axioms Zap.C05_consecutive
#print axioms Zap.C05_bijection
#print axioms Zap.C05_count
#print axioms Zap.C05_maps
#print axioms Zap.C05_zero
#print axioms Zap.C05_stored
#print axioms Zap.mergedFieldNames_spec
#print axioms Zap.fieldsSame_sound
#print axioms Zap.fieldsSame_fieldless_harmless
