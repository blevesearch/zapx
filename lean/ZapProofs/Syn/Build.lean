/-
  ZapProofs.Syn.Build: the thesaurus of a built segment (C12).  Pass 1 numbers the synonym terms
  (`synIds`); pass 2 is a run of events, one per definition, each adding codes under its LHS term
  (`addCodes`); then the terms are sorted: `buildThes b n` stores `Spec.synPairs b n` under `synIds b n`
  (`buildThes_stores`).  Last: a name whose every field instance the inverted section skips has no terms.
-/
import ZapProofs.Syn.Thes
import ZapProofs.Build.Seg

namespace Zap.SynL
open Zap.Spec

def synList (b : Batch) (n : Name) : List Bytes :=
  b.flatMap (fun d => ((synFields d).filter (fun f => f.name = n)).flatMap (fun f => f.defs.flatMap (·.rhs)))

theorem synIds_eq (b : Batch) (n : Name) : synIds b n = (synList b n).foldl getOrDefine [] := by
  unfold synIds synList
  rw [List.foldl_flatMap]
  congr 1
  funext acc d
  rw [List.foldl_flatMap, List.foldl_filter]
  congr 1
  funext acc f
  by_cases h : f.name = n
  · simp only [h, if_true, decide_true]
    rw [List.foldl_flatMap]
  · simp only [h, if_false, decide_false]
    rfl

theorem synIds_nodup (b : Batch) (n : Name) : (synIds b n).Nodup := by
  rw [synIds_eq]
  exact (foldl_getOrDefine_spec _ []).2.1 List.nodup_nil

theorem mem_synIds_iff (b : Batch) (n : Name) (s : Bytes) :
    s ∈ synIds b n ↔ ∃ d ∈ b, ∃ f ∈ synFields d, f.name = n ∧ ∃ df ∈ f.defs, s ∈ df.rhs := by
  rw [synIds_eq, (foldl_getOrDefine_spec _ []).2.2]
  unfold synList
  simp only [List.not_mem_nil, false_or, List.mem_flatMap, List.mem_filter, decide_eq_true_eq, and_assoc]

theorem addCodes_nodup (d : List (Bytes × List (Nat × Nat))) (lhs : Bytes) (codes : List (Nat × Nat))
    (h : (d.map (·.1)).Nodup) : ((addCodes d lhs codes).map (·.1)).Nodup :=
  nodup_key_upsert (g := fun p => (p.1, insAll codes p.2)) (new := (lhs, insAll codes [])) (fun _ => rfl) rfl h

theorem lookup_addCodes (d : List (Bytes × List (Nat × Nat))) (lhs : Bytes) (codes : List (Nat × Nat))
    (k : Bytes) :
    lookup k (addCodes d lhs codes) =
      if lhs = k then some (insAll codes ((lookup k d).getD [])) else lookup k d :=
  lookup_upsert (insAll codes) [] lhs k d

/-- An event of pass 2: an LHS term and the codes one definition adds under it. -/
abbrev Ev := Bytes × List (Nat × Nat)

def runEvs (evs : List Ev) (d : List (Bytes × List (Nat × Nat))) : List (Bytes × List (Nat × Nat)) :=
  evs.foldl (fun acc e => addCodes acc e.1 e.2) d

theorem runEvs_nodup (evs : List Ev) (d : List (Bytes × List (Nat × Nat))) (h : (d.map (·.1)).Nodup) :
    ((runEvs evs d).map (·.1)).Nodup :=
  List.foldl_induction (fun d => (d.map (·.1)).Nodup) h fun d e _ => addCodes_nodup d e.1 e.2

theorem lookup_runEvs (evs : List Ev) (d : List (Bytes × List (Nat × Nat))) (k : Bytes) :
    (lookup k (runEvs evs d)).getD [] =
      insAll ((evs.filter (fun e => e.1 = k)).flatMap (·.2)) ((lookup k d).getD []) := by
  rw [runEvs, foldl_keyed (get := fun d => (lookup k d).getD []) (key := (·.1)) (k := k)
    (upd := fun v e => insAll e.2 v) (fun d e => by rw [lookup_addCodes]; split <;> rfl)]
  exact List.foldl_flatMap.symm

theorem insertLhs_eq : insertLhs = insertAfter (fun y x => Bytes.lt y.1 x.1) := by
  funext x l
  induction l with
  | nil => rfl
  | cons y ys ih => simp only [insertLhs, insertAfter, ih]

theorem sortedLt_sortLhs {d : List (Bytes × List (Nat × Nat))} (h : (d.map (·.1)).Nodup) :
    SortedLt ((d.foldr insertLhs []).map (·.1)) := by
  rw [insertLhs_eq, map_foldr_insertAfter Prod.fst Bytes.lt, sortedLt_iff_pairwise]
  exact pairwise_foldr_insertAfter strictTotal_blt h

def evs (ids : List Bytes) (b : Batch) (n : Name) : List Ev :=
  b.zipIdx.flatMap (fun p => (synDefs p.1 n).map (fun df => (df.lhs, df.rhs.map (fun s => (synIdOf ids s, p.2)))))

theorem buildThes_eq (b : Batch) (n : Name) :
    buildThes b n =
      { terms := ((runEvs (evs (synIds b n) b n) []).foldr insertLhs []).filter (fun p => !p.2.isEmpty),
        table := tableOf (synIds b n) } := by
  unfold buildThes runEvs evs tableOf
  simp only []
  congr 3
  rw [List.foldl_flatMap]
  congr 1
  funext acc p
  unfold synDefs
  rw [List.foldl_map, List.foldl_flatMap]

theorem evs_key (ids : List Bytes) (b : Batch) (n : Name) (k : Bytes) :
    ((evs ids b n).filter (fun e => e.1 = k)).flatMap (·.2) =
      (synPairs b n k).map (fun it => (synIdOf ids it.1, it.2)) := by
  unfold evs synPairs
  simp only [List.filter_flatMap, List.flatMap_assoc, List.filter_map, List.flatMap_map, List.map_flatMap,
    List.map_map]
  rfl

theorem hasThes_iff (b : Batch) (n : Name) :
    hasThes b n = true ↔ ∃ d ∈ b, ∃ f ∈ synFields d, f.name = n := by
  unfold hasThes
  simp only [List.any_eq_true, decide_eq_true_eq]

theorem mem_synFields {d : DocIn} {f : FieldIn} :
    f ∈ synFields d ↔ d.plain = false ∧ f ∈ d.fields ∧ f.kind = .syn := by
  unfold synFields
  cases hp : d.plain
  · simp only [Bool.false_eq_true, if_false, List.mem_filter, beq_iff_eq, true_and]
  · simp

theorem hasThes_iff_spec {b : Batch} (hp : SynPlainOK b) (n : Name) :
    hasThes b n = true ↔ hasSynField b n := by
  rw [hasThes_iff]
  unfold hasSynField
  constructor
  · rintro ⟨d, hd, f, hf, e⟩
    obtain ⟨_, h2, h3⟩ := mem_synFields.1 hf
    exact ⟨d, hd, f, h2, h3, e⟩
  · rintro ⟨d, hd, f, hf, hk, e⟩
    exact ⟨d, hd, f, mem_synFields.2 ⟨hp d hd f hf hk, hf, hk⟩, e⟩

theorem hasThes_mem_fieldTable {b : Batch} {n : Name} (h : hasThes b n = true) : n ∈ fieldTable b := by
  obtain ⟨d, hd, f, hf, e⟩ := (hasThes_iff b n).1 h
  exact e ▸ names_in_table b d hd f (mem_visitOrder.2 (mem_synFields.1 hf).2.1)

theorem buildSeg_thes? (v : Bool) (mode : Nat) (b : Batch) (hne : b ≠ []) (n : Name) :
    (buildSeg v mode b).thes? n = if hasThes b n = true then some (buildThes b n) else none := by
  have hnd : b.length ≠ 0 := mt List.length_eq_zero_iff.1 hne
  unfold Seg.thes?
  rw [buildSeg_field? v mode b hne]
  by_cases ht : hasThes b n = true
  · rw [if_pos (hasThes_mem_fieldTable ht), if_pos ht]
    exact if_pos ⟨hnd, ht⟩
  · rw [if_neg ht]
    by_cases hn : n ∈ fieldTable b
    · rw [if_pos hn]
      exact if_neg fun x => ht x.2
    · rw [if_neg hn]

theorem mem_synDefs {d : DocIn} {n : Name} {df : SynDefn} :
    df ∈ synDefs d n ↔ ∃ f ∈ d.fields, f.kind = .syn ∧ f.name = n ∧ df ∈ f.defs := by
  unfold synDefs
  simp only [List.mem_flatMap, List.mem_filter, Bool.and_eq_true, beq_iff_eq, decide_eq_true_eq, and_assoc]

theorem rhs_mem_synIds {b : Batch} (hp : SynPlainOK b) {n : Name} {d : DocIn} (hd : d ∈ b)
    {df : SynDefn} (hdf : df ∈ synDefs d n) {s : Bytes} (hs : s ∈ df.rhs) : s ∈ synIds b n := by
  obtain ⟨f, hf, hk, hn, hdf'⟩ := mem_synDefs.1 hdf
  exact (mem_synIds_iff b n s).2 ⟨d, hd, f, mem_synFields.2 ⟨hp d hd f hf hk, hf, hk⟩, hn, df, hdf', hs⟩

theorem mem_synPairs (b : Batch) (n : Name) (term : Bytes) (s : Bytes) (i : Nat) :
    (s, i) ∈ synPairs b n term ↔
      ∃ p ∈ b.zipIdx, ∃ df ∈ synDefs p.1 n, df.lhs = term ∧ s ∈ df.rhs ∧ i = p.2 := by
  unfold synPairs
  simp only [List.mem_flatMap, List.mem_filter, decide_eq_true_eq, List.mem_map, Prod.mk.injEq]
  constructor
  · rintro ⟨p, hp, df, ⟨hdf, hl⟩, s', hs', rfl, rfl⟩; exact ⟨p, hp, df, hdf, hl, hs', rfl⟩
  · rintro ⟨p, hp, df, hdf, hl, hs, rfl⟩; exact ⟨p, hp, df, ⟨hdf, hl⟩, s, hs, rfl, rfl⟩

theorem mem_spec_synonyms (b : Batch) (n : Name) (term : Bytes) (ex : Option (List Nat)) (q : Bytes × Nat) :
    q ∈ Spec.synonyms b n term ex ↔ q ∈ synPairs b n term ∧ excluded ex q.2 = false := by
  unfold Spec.synonyms
  simp only [List.mem_filter, Bool.not_eq_true']

theorem synPairs_meaning (b : Batch) (n : Name) (term syn : Bytes) (d : Nat) :
    (syn, d) ∈ synPairs b n term ↔
      ∃ doc, b[d]? = some doc ∧ ∃ f ∈ doc.fields, f.kind = .syn ∧ f.name = n ∧
        ∃ df ∈ f.defs, df.lhs = term ∧ syn ∈ df.rhs := by
  rw [mem_synPairs]
  constructor
  · rintro ⟨p, hp, df, hdf, hl, hs, rfl⟩
    obtain ⟨f, hf, hk, hn, hdf'⟩ := mem_synDefs.1 hdf
    exact ⟨p.1, List.mem_zipIdx_iff_getElem?.1 hp, f, hf, hk, hn, df, hdf', hl, hs⟩
  · rintro ⟨doc, hd, f, hf, hk, hn, df, hdf, hl, hs⟩
    exact ⟨(doc, d), List.mem_zipIdx_iff_getElem?.2 hd, df, mem_synDefs.2 ⟨f, hf, hk, hn, hdf⟩, hl, hs, rfl⟩

theorem thesTermsSet_meaning (b : Batch) (n : Name) (term : Bytes) :
    term ∈ thesTermsSet b n ↔ ∃ syn d, (syn, d) ∈ synPairs b n term := by
  unfold thesTermsSet
  simp only [List.mem_flatMap, List.mem_map, List.mem_filter, Bool.not_eq_true', List.isEmpty_eq_false_iff]
  constructor
  · rintro ⟨d, hd, df, ⟨hdf, hr⟩, hl⟩
    obtain ⟨i, hi⟩ := List.exists_mem_zipIdx hd
    obtain ⟨s, hs⟩ := List.exists_mem_of_ne_nil _ hr
    exact ⟨s, i, (mem_synPairs b n term s i).2 ⟨(d, i), hi, df, hdf, hl, hs, rfl⟩⟩
  · rintro ⟨syn, i, h⟩
    obtain ⟨p, hp, df, hdf, hl, hs, _⟩ := (mem_synPairs b n term syn i).1 h
    exact ⟨p.1, List.fst_mem_of_mem_zipIdx hp, df, ⟨hdf, List.ne_nil_of_mem hs⟩, hl⟩

theorem hasSynField_of_pair {b : Batch} {n : Name} {term : Bytes} {q : Bytes × Nat}
    (h : q ∈ synPairs b n term) : hasSynField b n := by
  obtain ⟨p, hp, df, hdf, _, _, _⟩ := (mem_synPairs b n term q.1 q.2).1 h
  obtain ⟨f, hf, hk, hn, _⟩ := mem_synDefs.1 hdf
  exact ⟨p.1, List.fst_mem_of_mem_zipIdx hp, f, hf, hk, hn⟩

theorem buildThes_stores {b : Batch} (hp : SynPlainOK b) (n : Name) :
    Stores (buildThes b n) (synIds b n) (synPairs b n) := by
  rw [buildThes_eq]
  refine stores_of_lookup (sortedLt_sortLhs (runEvs_nodup _ [] List.nodup_nil)) (synIds_nodup b n)
    (fun k it hit => ?_) (fun k => ?_)
  · obtain ⟨q, hq, df, hdf, _, hs, _⟩ := (mem_synPairs b n k it.1 it.2).1 hit
    exact rhs_mem_synIds hp (List.fst_mem_of_mem_zipIdx hq) hdf hs
  · rw [insertLhs_eq, lookup_foldr_insertAfter, lookup_runEvs, evs_key]
    rfl

theorem buildSeg_thes_stores (v : Bool) (mode : Nat) (b : Batch) (hne : b ≠ []) (hp : SynPlainOK b) (n : Name) :
    OptStores ((buildSeg v mode b).thes? n) (synIds b n) (synPairs b n) := by
  rw [buildSeg_thes? v mode b hne]
  split
  · exact buildThes_stores hp n
  · next h =>
    exact fun k => List.eq_nil_iff_forall_not_mem.2 fun q hq =>
      h ((hasThes_iff_spec hp n).2 (hasSynField_of_pair hq))

theorem build_synonyms_mem (v : Bool) (mode : Nat) (b : Batch) (hne : b ≠ []) (hp : SynPlainOK b)
    (n : Name) (term : Bytes) (ex : Option (List Nat)) (q : Bytes × Nat) :
    q ∈ (buildSeg v mode b).synonyms n term ex ↔ q ∈ Spec.synonyms b n term ex := by
  rw [mem_synonyms, mem_spec_synonyms, (buildSeg_thes_stores v mode b hne hp n).mem_pairs]

theorem build_thes_wf (v : Bool) (mode : Nat) (b : Batch) (hne : b ≠ []) (hp : SynPlainOK b) :
    SegThesWF (buildSeg v mode b) :=
  fun n _ ht => (buildSeg_thes_stores v mode b hne hp n).wf ht

theorem build_thesTerms_mem (v : Bool) (mode : Nat) (b : Batch) (hne : b ≠ []) (hp : SynPlainOK b)
    (n : Name) (k : Bytes) :
    k ∈ (buildSeg v mode b).thesTerms n ↔ k ∈ thesTermsSet b n := by
  rw [mem_thesTerms, (buildSeg_thes_stores v mode b hne hp n).mem_terms, thesTermsSet_meaning]
  constructor
  · intro h
    obtain ⟨q, hq⟩ := List.exists_mem_of_ne_nil _ h
    exact ⟨q.1, q.2, hq⟩
  · rintro ⟨syn, d, hq⟩
    exact List.ne_nil_of_mem hq

theorem processDocs_untouched (v : Bool) (tbl : List Name) (n : Name) (hn : n ∈ tbl) (b : Batch)
    (hno : ∀ d ∈ b, ∀ f ∈ d.fields, f.name = n → invProcessed v f = false) :
    (processDocs v tbl b).getD (fieldIdOf tbl n) [] = [] := by
  -- an event with the id of `n` would come from a processed instance named `n`
  have hev : ∀ ev ∈ Arr.events v tbl b, ev.fid ≠ fieldIdOf tbl n := by
    intro ev hev e
    obtain ⟨p, hp, hev⟩ := List.mem_flatMap.1 hev
    obtain ⟨f, hf, hfid⟩ := Arr.docEvents_fid v tbl p.2 p.1 ev hev
    obtain ⟨hf1, hf2⟩ := List.mem_filter.1 hf
    rw [hno p.1 (List.fst_mem_of_mem_zipIdx hp) f (mem_visitOrder.1 hf1) (fieldIdOf_inj hn (hfid ▸ e))] at hf2
    cases hf2
  rw [processDocs_eq_events, Arr.getD_foldl_applyEv_of_ne hev, List.getD_eq_getElem?_getD, List.getElem?_map]
  cases tbl[fieldIdOf tbl n]? <;> rfl

theorem build_dictTerms_skipped (v : Bool) (mode : Nat) (b : Batch) (hne : b ≠ []) (n : Name)
    (hno : ∀ d ∈ b, ∀ f ∈ d.fields, f.name = n → invProcessed v f = false) :
    (buildSeg v mode b).dictTerms n = [] := by
  rw [buildSeg_dictTerms v mode b hne n]
  split
  · next hn =>
    rw [processDocs_untouched v _ n hn b hno]
    rfl
  · rfl

end Zap.SynL
