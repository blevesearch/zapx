/-
  ZapProofs.Codec.Crc: CRC-32 continuation over appended bytes, and big-endian fields
  (`beBytes`, `be64`).
-/
import ZapModel.Codec
import ZapProofs.Base.List

namespace Zap.Codec

theorem crcUpdateRaw_append (st : Nat) (a b : Bytes) :
    crcUpdateRaw st (a ++ b) = crcUpdateRaw (crcUpdateRaw st a) b := by
  simp [crcUpdateRaw, List.foldl_append]

theorem xor_xor_cancel (x m : Nat) : x ^^^ m ^^^ m = x := by
  rw [Nat.xor_assoc, Nat.xor_self, Nat.xor_zero]

/-- no bound on `c` is needed -/
theorem crcUpdate_append' (c : Nat) (a b : Bytes) :
    crcUpdate c (a ++ b) = crcUpdate (crcUpdate c a) b := by
  simp only [crcUpdate, crcUpdateRaw_append, xor_xor_cancel]

theorem crcUpdate_append (c : Nat) (a b : Bytes) (_hc : c < 2 ^ 32) :
    crcUpdate c (a ++ b) = crcUpdate (crcUpdate c a) b := crcUpdate_append' c a b

theorem crc32_append (a b : Bytes) : crc32 (a ++ b) = crcUpdate (crc32 a) b :=
  crcUpdate_append' 0 a b

theorem crcUpdate_nil (c : Nat) : crcUpdate c [] = c := by
  simp [crcUpdate, crcUpdateRaw, xor_xor_cancel]

theorem crcStep_bits_lt (k c : Nat) (h : c < 2 ^ 32) : crcStep.bits k c < 2 ^ 32 := by
  induction k generalizing c with
  | zero => simpa [crcStep.bits] using h
  | succ k ih =>
    rw [crcStep.bits]
    apply ih
    have h2 : c / 2 < 2 ^ 32 := Nat.lt_of_le_of_lt (Nat.div_le_self c 2) h
    split
    · exact Nat.xor_lt_two_pow h2 (by decide)
    · exact h2

theorem crcStep_lt (c b : Nat) (hc : c < 2 ^ 32) (hb : b < 256) : crcStep c b < 2 ^ 32 := by
  unfold crcStep
  exact crcStep_bits_lt 8 _ (Nat.xor_lt_two_pow hc (Nat.lt_trans hb (by decide)))

theorem crcUpdateRaw_lt (st : Nat) (bs : Bytes) (hst : st < 2 ^ 32) (hbs : ∀ b ∈ bs, b < 256) :
    crcUpdateRaw st bs < 2 ^ 32 :=
  List.foldl_induction (· < 2 ^ 32) hst (fun c b hb hc => crcStep_lt c b hc (hbs b hb))

theorem crcUpdate_lt (c : Nat) (bs : Bytes) (hc : c < 2 ^ 32) (hbs : ∀ b ∈ bs, b < 256) :
    crcUpdate c bs < 2 ^ 32 := by
  unfold crcUpdate
  exact Nat.xor_lt_two_pow
    (crcUpdateRaw_lt _ bs (Nat.xor_lt_two_pow hc (by decide)) hbs) (by decide)

theorem beBytes_length (w x : Nat) : (beBytes w x).length = w := by
  simp [beBytes]

theorem beBytes_succ (w x : Nat) : beBytes (w + 1) x = beBytes w (x / 256) ++ [x % 256] := by
  unfold beBytes
  rw [List.range_succ, List.map_append]
  congr 1
  · apply List.map_congr_left
    intro i hi
    have hi : i < w := List.mem_range.mp hi
    have e : w + 1 - 1 - i = (w - 1 - i) + 1 := by
      rw [Nat.add_sub_cancel, Nat.sub_right_comm, Nat.sub_add_cancel (Nat.sub_pos_of_lt hi)]
    rw [e, Nat.pow_succ, Nat.mul_comm, Nat.div_div_eq_div_mul]
  · rw [List.map_singleton, Nat.add_sub_cancel, Nat.sub_self, Nat.pow_zero, Nat.div_one]

theorem be64_append_singleton (l : Bytes) (b : Nat) : be64 (l ++ [b]) = be64 l * 256 + b := by
  simp [be64, List.foldl_append]

theorem be64_beBytes (w x : Nat) (h : x < 256 ^ w) : be64 (beBytes w x) = x := by
  induction w generalizing x with
  | zero =>
    have : x = 0 := by simpa using h
    simp [beBytes, be64, this]
  | succ w ih =>
    rw [beBytes_succ, be64_append_singleton, ih (x / 256)]
    · exact Nat.div_add_mod' x 256
    · rw [Nat.pow_succ] at h
      exact Nat.div_lt_of_lt_mul (by rw [Nat.mul_comm]; exact h)

theorem beBytes_bytes (w x : Nat) : ∀ b ∈ beBytes w x, b < 256 := by
  intro b hb
  simp only [beBytes, List.mem_map] at hb
  obtain ⟨i, _, rfl⟩ := hb
  exact Nat.mod_lt _ (by decide)

end Zap.Codec
