/-
  ZapProofs.Writer.Uv: `Writer.uv64` (the twin of `Layout.uvLim`: at most ten bytes, the tenth at
  most 1) and `readN64` read back what `putUvarint` / `putUvarints` wrote.
-/
import ZapModel.Writer
import ZapProofs.Codec.Uvarint

namespace Zap.Writer.Uv
open Zap.Codec

theorem uv64Go_last {b : Nat} (fuel : Nat) (r : Bytes) (sh acc : Nat) (hb : b < 128)
    (hok : fuel = 0 → b ≤ 1) :
    uv64Go (fuel + 1) (b :: r) sh acc = some (acc + b <<< sh, r) := by
  have hno : ¬ (fuel = 0 ∧ b > 1) := fun h => Nat.not_lt.mpr (hok h.1) h.2
  simp only [uv64Go, hb, hno, if_true, if_false]

theorem uv64Go_more {b : Nat} (fuel : Nat) (r : Bytes) (sh acc : Nat) (hb : ¬ b < 128) :
    uv64Go (fuel + 1) (b :: r) sh acc = uv64Go fuel r (sh + 7) (acc + (b - 128) <<< sh) := by
  simp only [uv64Go, hb, if_false]

/-- `fuel + 1` bytes may be read, seven bits in each of the first `fuel` and one in the last:
    that budget alone bounds `x`, whatever the shift and the accumulator are. -/
theorem uv64Go_put (x : Nat) (rest : Bytes) :
    ∀ (fuel sh acc : Nat), x < 2 ^ (7 * fuel + 1) →
      uv64Go (fuel + 1) (putUvarint x ++ rest) sh acc = some (acc + x <<< sh, rest) := by
  fun_induction putUvarint x with
  | case1 x h =>
    intro fuel sh acc hx
    exact uv64Go_last fuel rest sh acc h (fun h0 => by subst h0; exact Nat.le_of_lt_succ hx)
  | case2 x h ih =>
    intro fuel sh acc hx
    cases fuel with
    | zero => exact absurd (Nat.lt_trans hx (by decide)) h
    | succ fuel =>
      have hx' : x / 128 < 2 ^ (7 * fuel + 1) :=
        Nat.div_lt_of_lt_mul (by rw [Nat.mul_comm, ← Nat.pow_add 2 _ 7]; exact hx)
      rw [List.cons_append, uv64Go_more _ _ _ _ (cont_not_lt x), Nat.add_sub_cancel,
        ih fuel _ _ hx', Nat.add_assoc, split_add]

theorem uv64_putUvarint (x : Nat) (hx : x < 2 ^ 64) (rest : Bytes) :
    uv64 (putUvarint x ++ rest) = some (x, rest) := by
  rw [uv64, uv64Go_put x rest 9 0 0 hx, Nat.shiftLeft_zero, Nat.zero_add]

theorem readN64_putUvarints (xs : List Nat) (hx : ∀ x ∈ xs, x < 2 ^ 64) (rest : Bytes) :
    readN64 xs.length (putUvarints xs ++ rest) = some (xs, rest) := by
  induction xs with
  | nil => rfl
  | cons x xs ih =>
    have h := List.forall_mem_cons.mp hx
    simp only [putUvarints_cons, List.append_assoc, List.length_cons, readN64,
      uv64_putUvarint x h.1, ih h.2]

end Zap.Writer.Uv
