/-
  ZapProofs.Codec.Uvarint: uvarints.  Every reader of `ZapModel/Codec.lean` (`uvarint`, `uvarints`,
  `readN`, `memSkip`, `memRead`) inverts `putUvarint`; each proof follows the recursion of
  `putUvarint`.  (The writer twins `Writer.uv64`, `readN64`: Writer/Uv, on `split_add` below.)
-/
import ZapModel.Codec
import ZapProofs.Codec.Bits

namespace Zap.Codec

theorem putUvarint_lt {x : Nat} (h : x < 128) : putUvarint x = [x] := by
  rw [putUvarint, dif_pos h]

theorem putUvarint_ge {x : Nat} (h : ¬ x < 128) :
    putUvarint x = (x % 128 + 128) :: putUvarint (x / 128) := by
  rw [putUvarint, dif_neg h]

theorem putUvarint_ne_nil (x : Nat) : putUvarint x ≠ [] := by
  fun_cases putUvarint x <;> exact List.cons_ne_nil _ _

theorem putUvarint_length_pos (x : Nat) : 0 < (putUvarint x).length :=
  List.length_pos_iff.mpr (putUvarint_ne_nil x)

theorem putUvarint_bytes (x : Nat) : ∀ b ∈ putUvarint x, b < 256 := by
  fun_induction putUvarint x with
  | case1 x h => exact fun b hb => List.mem_singleton.mp hb ▸ Nat.lt_trans h (by decide)
  | case2 x h ih =>
    exact List.forall_mem_cons.mpr ⟨Nat.add_lt_add_right (Nat.mod_lt x (by decide)) 128, ih⟩

theorem numUvarintBytes_eq (x : Nat) : numUvarintBytes x = (putUvarint x).length := by
  fun_induction putUvarint x with
  | case1 x h => rw [numUvarintBytes, dif_pos h, List.length_singleton]
  | case2 x h ih => rw [numUvarintBytes, dif_neg h, ih, List.length_cons]

/-- The continuation byte `x % 128 + 128` of `putUvarint`, as the readers test and strip it. -/
theorem cont_not_lt (x : Nat) : ¬ x % 128 + 128 < 128 := Nat.not_lt.mpr (Nat.le_add_left _ _)

theorem cont_mod (x : Nat) : (x % 128 + 128) % 128 = x % 128 := by
  rw [Nat.add_mod_right, Nat.mod_mod]

theorem putUvarints_nil : putUvarints [] = [] := rfl

theorem putUvarints_cons (x : Nat) (xs : List Nat) :
    putUvarints (x :: xs) = putUvarint x ++ putUvarints xs := List.flatMap_cons

theorem putUvarints_append (xs ys : List Nat) :
    putUvarints (xs ++ ys) = putUvarints xs ++ putUvarints ys := List.flatMap_append

theorem putUvarints_length_ge (xs : List Nat) : xs.length ≤ (putUvarints xs).length := by
  induction xs with
  | nil => exact Nat.le_refl 0
  | cons x xs ih =>
    rw [putUvarints_cons, List.length_cons, List.length_append, Nat.add_comm]
    exact Nat.add_le_add (putUvarint_length_pos x) ih

theorem putUvarints_eq_nil (vs : List Nat) : putUvarints vs = [] ↔ vs = [] := by
  cases vs with
  | nil => simp [putUvarints]
  | cons v vs => simp [putUvarints_cons, putUvarint_ne_nil]

theorem putUvarint_length_le (x : Nat) : (putUvarint x).length ≤ x + 1 := by
  fun_induction putUvarint x with
  | case1 x h => exact Nat.le_add_left 1 x
  | case2 x h ih =>
    have hlt : x / 128 < x :=
      Nat.div_lt_self (Nat.lt_of_lt_of_le (by decide) (Nat.le_of_not_lt h)) (by decide)
    exact Nat.succ_le_succ (Nat.le_trans ih hlt)

theorem putUvarints_bytes (xs : List Nat) : ∀ b ∈ putUvarints xs, b < 256 := by
  intro b hb
  unfold putUvarints at hb
  obtain ⟨x, _, hx⟩ := List.mem_flatMap.mp hb
  exact putUvarint_bytes x b hx

theorem uvarint_putUvarint (x : Nat) (rest : Bytes) :
    uvarint (putUvarint x ++ rest) = some (x, rest) := by
  fun_induction putUvarint x with
  | case1 x h => simp only [List.cons_append, List.nil_append, uvarint, h, if_true]
  | case2 x h ih =>
    simp only [List.cons_append, uvarint, cont_not_lt x, if_false, ih, Nat.add_sub_cancel,
      Nat.mod_add_div]

theorem readN_putUvarints (xs : List Nat) (rest : Bytes) :
    readN xs.length (putUvarints xs ++ rest) = some (xs, rest) := by
  induction xs with
  | nil => rfl
  | cons x xs ih =>
    simp only [putUvarints_cons, List.append_assoc, List.length_cons, readN, uvarint_putUvarint, ih]

theorem uvarints_go_put (fuel x : Nat) (rest : Bytes) :
    uvarints.go (fuel + 1) (putUvarint x ++ rest) = x :: uvarints.go fuel rest := by
  cases h : putUvarint x ++ rest with
  | nil => exact absurd (List.append_eq_nil_iff.mp h).1 (putUvarint_ne_nil x)
  | cons b t => simp only [uvarints.go, ← h, uvarint_putUvarint]

theorem uvarints_go_putUvarints (xs : List Nat) (fuel : Nat) :
    uvarints.go (fuel + xs.length) (putUvarints xs) = xs := by
  induction xs with
  | nil => cases fuel <;> rfl
  | cons x xs ih => rw [List.length_cons, ← Nat.add_assoc, putUvarints_cons, uvarints_go_put, ih]

theorem uvarints_putUvarints (xs : List Nat) : uvarints (putUvarints xs) = xs := by
  obtain ⟨k, hk⟩ := Nat.le.dest (putUvarints_length_ge xs)
  rw [uvarints, ← hk, Nat.add_comm]
  exact uvarints_go_putUvarints xs k

/-! ### memUvarintReader

  The `go` loops run on fuel `s.length + 1`; the lemmas take it as `fuel + (putUvarint x).length`,
  which is the form in which one byte can be peeled off per step. -/

theorem drop_cons {s : Bytes} {c b : Nat} {t : Bytes} (h : s.drop c = b :: t) :
    s[c]? = some b ∧ s.drop (c + 1) = t := by
  rw [← List.head?_drop, ← List.tail_drop, h]
  exact ⟨rfl, rfl⟩

theorem length_fuel (pre mid post : Bytes) :
    (pre ++ mid ++ post).length + 1 = pre.length + post.length + 1 + mid.length := by
  simp only [List.length_append]
  omega

theorem memSkip_go_last {s : Bytes} {c b : Nat} (fuel : Nat) (hc : s[c]? = some b) (hb : b < 128) :
    memSkip.go s (fuel + 1) c = c + 1 := by
  simp only [memSkip.go, hc, hb, if_true]

theorem memSkip_go_more {s : Bytes} {c b : Nat} (fuel : Nat) (hc : s[c]? = some b)
    (hb : ¬ b < 128) : memSkip.go s (fuel + 1) c = memSkip.go s fuel (c + 1) := by
  simp only [memSkip.go, hc, hb, if_false]

theorem memSkip_go_put (s : Bytes) (x : Nat) (post : Bytes) (fuel : Nat) :
    ∀ c, s.drop c = putUvarint x ++ post →
      memSkip.go s (fuel + (putUvarint x).length) c = c + (putUvarint x).length := by
  fun_induction putUvarint x with
  | case1 x h => exact fun c hd => memSkip_go_last fuel (drop_cons hd).1 h
  | case2 x h ih =>
    intro c hd
    rw [List.length_cons, ← Nat.add_assoc, memSkip_go_more _ (drop_cons hd).1 (cont_not_lt x),
      ih (c + 1) (drop_cons hd).2, Nat.add_assoc, Nat.add_comm 1]

theorem memSkip_put (pre : Bytes) (x : Nat) (post : Bytes) :
    memSkip (pre ++ putUvarint x ++ post) pre.length = pre.length + (putUvarint x).length := by
  rw [memSkip, length_fuel]
  exact memSkip_go_put _ x post _ _ (by rw [List.append_assoc, List.drop_left])

/-! One shift-accumulate step of a reader takes the low seven bits at `sh` and leaves the rest
    for `sh + 7`; with `+` (`uv64Go`) and with `|||` (`memRead.go`) that splits `x <<< sh`. -/

theorem split_add (x sh : Nat) : (x % 128) <<< sh + (x / 128) <<< (sh + 7) = x <<< sh := by
  rw [Nat.add_comm sh, Nat.shiftLeft_add, Nat.shiftLeft_eq _ 7, Nat.shiftLeft_eq, Nat.shiftLeft_eq,
    Nat.shiftLeft_eq, ← Nat.add_mul, Nat.mul_comm _ (2 ^ 7), Nat.mod_add_div]

theorem split_or (x sh : Nat) : (x % 128) <<< sh ||| (x / 128) <<< (sh + 7) = x <<< sh := by
  have h7 : x % 128 < 2 ^ 7 := Nat.mod_lt x (by decide)
  rw [Nat.add_comm sh, Nat.shiftLeft_add, ← Nat.shiftLeft_or_distrib, Nat.or_comm,
    ← Nat.shiftLeft_add_eq_or_of_lt h7, Nat.shiftLeft_eq _ 7, Nat.mul_comm, Nat.div_add_mod]

theorem split_lo_le (x sh : Nat) : (x % 128) <<< sh ≤ x <<< sh := Nat.le.intro (split_add x sh)

theorem split_hi_le (x sh : Nat) : (x / 128) <<< (sh + 7) ≤ x <<< sh := by
  rw [← split_add x sh]
  exact Nat.le_add_left _ _

theorem shift_lt_of_shiftLeft_lt {a sh n : Nat} (ha : 0 < a) (h : a <<< sh < 2 ^ n) : sh < n := by
  rw [Nat.shiftLeft_eq] at h
  exact (Nat.pow_lt_pow_iff_right (by decide)).mp
    (Nat.lt_of_le_of_lt (Nat.le_mul_of_pos_left _ ha) h)

/-- The last byte, when nothing overflows: the model's `% 2^64` disappear. -/
theorem memRead_go_last {s : Bytes} {c b acc sh : Nat} (fuel : Nat) (hc : s[c]? = some b)
    (hb : b < 128) (hsh : sh ≤ 63) (hacc : acc < 2 ^ 64) (hbs : b <<< sh < 2 ^ 64) :
    memRead.go s (fuel + 1) c acc sh = some (acc ||| b <<< sh, false, c + 1) := by
  have hno : ¬ (sh ≥ 63 ∧ (sh > 63 ∨ b > 1)) := by
    rintro ⟨h63, _⟩
    obtain rfl : sh = 63 := Nat.le_antisymm hsh h63
    rw [Nat.shiftLeft_eq] at hbs
    omega
  simp only [memRead.go, hc, hb, hno, if_true, if_false, mod_u64 hbs,
    mod_u64 (Nat.or_lt_two_pow hacc hbs)]

theorem memRead_go_more {s : Bytes} {c b acc sh : Nat} (fuel : Nat) (hc : s[c]? = some b)
    (hb : ¬ b < 128) (hbs : (b % 128) <<< sh < 2 ^ 64) :
    memRead.go s (fuel + 1) c acc sh
      = memRead.go s fuel (c + 1) (acc ||| (b % 128) <<< sh) (sh + 7) := by
  simp only [memRead.go, hc, hb, if_false, mod_u64 hbs]

/-- From any shift `sh ≤ 63` and any 64-bit accumulator, as long as `x <<< sh` fits in 64 bits
    (Go's overflow rule then never fires). -/
theorem memRead_go_put (s : Bytes) (x : Nat) (post : Bytes) (fuel : Nat) :
    ∀ (c acc sh : Nat), s.drop c = putUvarint x ++ post →
      sh ≤ 63 → acc < 2 ^ 64 → x <<< sh < 2 ^ 64 →
      memRead.go s (fuel + (putUvarint x).length) c acc sh
        = some (acc ||| x <<< sh, false, c + (putUvarint x).length) := by
  fun_induction putUvarint x with
  | case1 x h =>
    exact fun c acc sh hd hsh hacc hx => memRead_go_last fuel (drop_cons hd).1 h hsh hacc hx
  | case2 x h ih =>
    intro c acc sh hd hsh hacc hx
    have hlo := Nat.lt_of_le_of_lt (split_lo_le x sh) hx
    have hhi := Nat.lt_of_le_of_lt (split_hi_le x sh) hx
    have hsh' : sh + 7 ≤ 63 := Nat.le_of_lt_succ
      (shift_lt_of_shiftLeft_lt (Nat.div_pos (Nat.le_of_not_lt h) (by decide)) hhi)
    rw [List.length_cons, ← Nat.add_assoc,
      memRead_go_more _ (drop_cons hd).1 (cont_not_lt x) (by rw [cont_mod]; exact hlo), cont_mod,
      ih (c + 1) _ (sh + 7) (drop_cons hd).2 hsh' (Nat.or_lt_two_pow hacc hlo) hhi,
      Nat.or_assoc, split_or, Nat.add_assoc, Nat.add_comm 1]

theorem memRead_put (pre : Bytes) (x : Nat) (hx : x < 2 ^ 64) (post : Bytes) :
    memRead (pre ++ putUvarint x ++ post) pre.length
      = some (x, false, pre.length + (putUvarint x).length) := by
  have hlen : ¬ (pre.length ≥ (pre ++ putUvarint x ++ post).length) := by
    have hpos := putUvarint_length_pos x
    simp only [List.length_append]
    omega
  rw [memRead, if_neg hlen, length_fuel, memRead_go_put _ x post _ _ 0 0
    (by rw [List.append_assoc, List.drop_left]) (by decide) (by decide) hx,
    Nat.shiftLeft_zero, Nat.zero_or]

end Zap.Codec
