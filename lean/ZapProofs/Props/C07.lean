/-
  Property C07 (postings iteration).

  Any sequence of `Next` / `Advance` calls on a `PostingsIterator` returns
  exactly the non-excluded hits at or after each target, in order, each with
  its own frequency, norm and locations, and then nil; `Count` equals the number
  of non-excluded hits; the actual bitmap / single-hit accessor describe exactly
  the non-excluded hits; after the actual bitmap has been replaced by a subset
  the run returns exactly that subset.

  Model: `ZapModel.Posting` (mirror of /repo/posting.go).  Specification:
  `Zap.Spec.live`, `Zap.Spec.mkHit`, `Zap.Spec.run` (ZapModel.Spec).
  Proof: simulation, see `ZapProofs.Read.Posting`.
-/
import ZapProofs.Read.Posting

namespace Zap

/-- Well-formedness of a postings list as the writer produces it: document
    numbers strictly ascending (a roaring bitmap iterates in that order and the
    streams are written in that order), and a positive chunk size
    (`getChunkSize` never returns 0 for a non-empty general list; the reader
    answers `ErrChunkSizeZero` otherwise). -/
structure PList.WF (p : PList) : Prop where
  asc : match p.rep with | some (.general es) => AscNat (es.map (·.doc)) | _ => True
  cs  : match p.rep with | some (.general _) => 0 < p.chunkSize | _ => True

theorem PList.WF.ascEntries {p : PList} (h : p.WF) : Asc p.entries := by
  have h1 := h.asc
  unfold PList.entries
  cases hrep : p.rep with
  | none => exact List.Pairwise.nil
  | some r =>
    cases r with
    | general es =>
      rw [hrep] at h1
      exact List.pairwise_map.mp (ascNat_iff_pairwise.mp h1)
    | oneHit d nb => exact List.Pairwise.nil

theorem PList.WF.csPos {p : PList} (h : p.WF) :
    ∀ es, p.rep = some (.general es) → 0 < p.chunkSize := by
  intro es hrep
  have h2 := h.cs
  rw [hrep] at h2
  exact h2

/-- C07, iteration: for every well-formed postings list, every exclusion set,
    every combination of detail flags and every sequence of `Next` / `Advance`
    calls (arbitrary targets, no monotonicity assumed), the iterator answers
    exactly as the specification. -/
theorem C07_run (p : PList) (h : p.WF) (f n l : Bool) (ops : List Op) :
    (It.create p f n l).run ops = Spec.run (Spec.mkHit p f n l) (Spec.live p) ops :=
  run_sim ops _ _ (sim_create p h.ascEntries h.csPos f n l)

/-- C07, `Count`: the number of non-excluded hits (no hypothesis needed). -/
theorem C07_count (p : PList) : p.count = (Spec.live p).length := by
  unfold PList.count Spec.live
  cases hrep : p.rep with
  | none => rfl
  | some r =>
    cases r with
    | general es =>
      dsimp only [PostRep.entries]
      exact length_sub_filter (fun e : Entry => excluded p.except e.doc) es
    | oneHit d nb =>
      dsimp only [PostRep.entries]
      by_cases hex : excluded p.except d = true <;> simp [hex]

/-- C07, `ActualBitmap` / `DocNum1Hit`: they describe exactly the non-excluded hits. -/
theorem C07_live (p : PList) (f n l : Bool) :
    (It.create p f n l).live = (Spec.live p).map (·.doc) := by
  unfold It.live Spec.live It.create
  cases hrep : p.rep with
  | none => rfl
  | some r =>
    cases r with
    | general es =>
      dsimp only [PostRep.entries]
      exact List.filter_map
    | oneHit d nb =>
      dsimp only [PostRep.entries]
      by_cases hex : excluded p.except d = true <;> simp [hex]

/-- C07, `ReplaceActual` by a subset `A` (ascending sublist of the live docs)
    before iteration, general representation: the run returns exactly the hits
    of `A`. -/
theorem C07_replace (p : PList) (h : p.WF) (es : List Entry) (hrep : p.rep = some (.general es))
    (f n l : Bool) (A : List Nat) (hA : A.Sublist ((Spec.live p).map (·.doc))) (ops : List Op) :
    ((It.create p f n l).replaceActual A).run ops
      = Spec.run (Spec.mkHit p f n l) ((Spec.live p).filter (fun e => A.contains e.doc)) ops :=
  run_sim ops _ _
    (sim_replace hrep (entries_general hrep ▸ h.ascEntries) (h.csPos es hrep) f n l A hA)

/-! ### The hypotheses are satisfiable, and the theorems compute -/

namespace C07Example

def ml (pos : Nat) : MLoc := { fid := 0, pos := pos, start := 0, stop := 1, ap := [] }

/-- Six postings over four chunks of size 4 (docs 1,3 | 4 | 9,10 | 17), some
    without locations, one with frequency 0, two of them excluded. -/
def p0 : PList :=
  { rep := some (.general
      [ { doc := 1,  freq := 2, norm := 7, locs := [ml 1, ml 5] },
        { doc := 3,  freq := 1, norm := 8, locs := [ml 2] },
        { doc := 4,  freq := 1, norm := 9, locs := [] },
        { doc := 9,  freq := 3, norm := 5, locs := [ml 3] },
        { doc := 10, freq := 0, norm := 0, locs := [ml 4] },
        { doc := 17, freq := 1, norm := 6, locs := [ml 6] } ]),
    except := some [3, 10, 12],
    chunkSize := 4,
    names := [[102]] }

theorem p0_wf : p0.WF := ⟨by simp [p0, AscNat], by simp [p0]⟩

def ops0 : List Op := [.next, .advance 4, .advance 2, .advance 11, .next, .advance 0]

def loc (pos : Nat) : Loc := { field := [102], pos := pos, start := 0, stop := 1, ap := [] }

/-- `Next` → 1; `Advance 4` → 4 (skipping excluded 3); `Advance 2` (a target
    behind the cursor) → the next hit 9; `Advance 11` → 17 (skipping excluded 10);
    then nil for ever. -/
example : (It.create p0 true true true).run ops0 =
    [ some { doc := 1,  freq := 2, norm := 7, locs := [loc 1, loc 5] },
      some { doc := 4,  freq := 1, norm := 9, locs := [] },
      some { doc := 9,  freq := 3, norm := 5, locs := [loc 3] },
      some { doc := 17, freq := 1, norm := 6, locs := [loc 6] },
      none, none ] := by
  rw [C07_run p0 p0_wf]; decide

example : (It.create p0 true false false).run ops0 =
    [ some { doc := 1,  freq := 2, norm := 7, locs := [] },
      some { doc := 4,  freq := 1, norm := 9, locs := [] },
      some { doc := 9,  freq := 3, norm := 5, locs := [] },
      some { doc := 17, freq := 1, norm := 6, locs := [] },
      none, none ] := by
  rw [C07_run p0 p0_wf]; decide

example : p0.count = 4 := by rw [C07_count]; decide

example : (It.create p0 false false false).live = [1, 4, 9, 17] := by rw [C07_live]; decide

example : ((It.create p0 true true true).replaceActual [4, 17]).run [.next, .advance 5, .next] =
    [ some { doc := 4,  freq := 1, norm := 9, locs := [] },
      some { doc := 17, freq := 1, norm := 6, locs := [loc 6] },
      none ] := by
  rw [C07_replace p0 p0_wf _ rfl true true true [4, 17] (by decide)]; decide

-- The model itself, evaluated directly (compiled code, no theorem involved), agrees.
#guard (It.create p0 true true true).run ops0
    == Spec.run (Spec.mkHit p0 true true true) (Spec.live p0) ops0
#guard ((It.create p0 true false true).replaceActual [4, 17]).run [.next, .advance 5, .next]
    == Spec.run (Spec.mkHit p0 true false true)
        ((Spec.live p0).filter (fun e => [4, 17].contains e.doc)) [.next, .advance 5, .next]

/-- A 1-hit list: `WF` asks nothing of it, the chunk size may be 0. -/
def p1 : PList := { rep := some (.oneHit 5 77), except := some [2], chunkSize := 0, names := [] }

theorem p1_wf : p1.WF := ⟨trivial, trivial⟩

example : (It.create p1 true true false).run [.advance 3, .next] =
    [ some { doc := 5, freq := 1, norm := 77, locs := [] }, none ] := by
  rw [C07_run p1 p1_wf]; decide

end C07Example

#print axioms C07_run
#print axioms C07_count
#print axioms C07_live
#print axioms C07_replace

end Zap
