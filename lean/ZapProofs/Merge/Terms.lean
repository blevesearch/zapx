/-
  ZapProofs.Merge.Terms: one term of one field in the merge (C06).  What `mergeTermParts` and
  `chooseRep` make of the inputs that carry the term: the survivors' entries, renumbered, in input
  order; ascending by document when the inputs are, since the renumbering maps are monotone and
  their ranges do not interleave.
-/
import ZapProofs.Merge.Fields
import ZapProofs.Read.Dict

namespace Zap.MergeL
open Zap.DictL

def mergeEntry (same : Bool) (dstNames srcNames : List Name) (e : Entry) : Entry :=
  if same then e else { e with locs := translateLocs srcNames dstNames e.locs }

theorem mergeEntry_doc (same : Bool) (dst src : List Name) (e : Entry) :
    (mergeEntry same dst src e).doc = e.doc := by
  cases same <;> rfl

theorem mergeTermParts_flat (same : Bool) (dstNames : List Name)
    (parts : List (List Name × List (Option Nat) × PostRep)) :
    (mergeTermParts same dstNames parts).flatMap id =
      parts.flatMap (fun p => (survivors p.2.1 p.2.2.entries).map (mergeEntry same dstNames p.1)) := by
  unfold mergeTermParts
  rw [List.flatMap_map]
  apply List.flatMap_congr_mem
  intro p _
  cases same
  · rfl
  · have : mergeEntry true dstNames p.1 = id := by funext e; simp [mergeEntry]
    rw [this, List.map_id]; rfl

theorem chooseRep_none_iff (parts : List (List Entry)) :
    chooseRep parts = none ↔ parts.flatMap id = [] := by
  rcases chooseRep_cases parts with ⟨he, h⟩ | ⟨he, h⟩ | ⟨e, he, _, _, _, _, _, h⟩ <;> rw [h]
  · exact ⟨fun _ => he, fun _ => rfl⟩
  · exact ⟨nofun, fun e => absurd e he⟩
  · rw [he]
    exact ⟨nofun, nofun⟩

/-- No condition on the norm bits: since the repair of D14 the 1-hit form is chosen only when it can
    hold them. -/
theorem chooseRep_entries {parts : List (List Entry)} {r : PostRep}
    (h : chooseRep parts = some r) :
    r.entries = parts.flatMap id := by
  rcases chooseRep_cases parts with ⟨_, h'⟩ | ⟨_, h'⟩ | ⟨e, he, hl, _, hf, _, _, h'⟩ <;>
    rw [h'] at h <;> cases h
  · rfl
  · rw [he]
    show [(⟨e.doc, 1, e.norm, []⟩ : Entry)] = [e]
    rw [← hl, ← hf]

theorem survivors_docs (m : List (Option Nat)) (es : List Entry) :
    (survivors m es).map (·.doc) = es.filterMap (fun e => m.getD e.doc none) := by
  unfold survivors
  rw [List.map_filterMap]
  apply List.filterMap_congr_mem
  intro e _
  cases m.getD e.doc none <;> rfl

theorem asc_survivors {m : List (Option Nat)} {es : List Entry} (hm : MonoMap m)
    (ha : AscNat (es.map (·.doc))) : AscNat ((survivors m es).map (·.doc)) := by
  rw [survivors_docs]
  rw [ascNat_iff_pairwise, List.pairwise_map] at ha
  rw [ascNat_iff_pairwise]
  exact ha.filterMap (fun e => m.getD e.doc none) fun a a' hlt b hb b' hb' => hm a.doc a'.doc b b' hlt hb hb'

theorem asc_merged (same : Bool) (dstNames : List Name)
    (parts : List (List Name × List (Option Nat) × PostRep))
    (hmono : ∀ p ∈ parts, MonoMap p.2.1)
    (hasc : ∀ p ∈ parts, AscNat (p.2.2.entries.map (·.doc)))
    (hsep : parts.Pairwise (fun a b => MapsSep a.2.1 b.2.1)) :
    AscNat (((mergeTermParts same dstNames parts).flatMap id).map (·.doc)) := by
  rw [mergeTermParts_flat, ascNat_iff_pairwise, List.pairwise_map]
  refine pairwise_flatMap_sep (m := fun p => p.2.1) hsep ?_ ?_
  · intro p _ x hx
    obtain ⟨e, he, rfl⟩ := List.mem_map.1 hx
    rw [mergeEntry_doc]
    have : e.doc ∈ (survivors p.2.1 p.2.2.entries).map (·.doc) := List.mem_map.2 ⟨e, he, rfl⟩
    rw [survivors_docs] at this
    obtain ⟨e', _, hk⟩ := List.mem_filterMap.1 this
    exact getD_some_mem hk
  · intro p hp
    have := asc_survivors (hmono p hp) (hasc p hp)
    rw [ascNat_iff_pairwise, List.pairwise_map] at this
    rw [List.pairwise_map]
    simpa only [mergeEntry_doc] using this

theorem mem_focusOf {nm : Name} {segs : List Seg} {maps : List (List (Option Nat))}
    {q : Seg × List (Option Nat)} (hq : q ∈ focusOf nm segs maps) : q ∈ segs.zip maps :=
  (List.mem_filter.1 hq).1

theorem mem_partsOf {nm : Name} {k : Bytes} {focus : List (Seg × List (Option Nat))}
    {p : List Name × List (Option Nat) × PostRep} :
    p ∈ partsOf nm k focus ↔
      ∃ q ∈ focus, lookup k (q.1.dictTerms nm) = some p.2.2 ∧ p.1 = q.1.fields.map (·.name) ∧ p.2.1 = q.2 := by
  unfold partsOf
  simp only [List.mem_filterMap, Option.map_eq_some_iff]
  constructor
  · rintro ⟨q, hq, r, hr, rfl⟩
    exact ⟨q, hq, hr, rfl, rfl⟩
  · rintro ⟨q, hq, hr, h1, h2⟩
    exact ⟨q, hq, p.2.2, hr, by rw [← h1, ← h2]⟩

theorem partsOf_pairwise (nm : Name) (k : Bytes) (segs : List Seg) (drops : List (Option (List Nat))) :
    (partsOf nm k (focusOf nm segs (remapAll segs drops 0))).Pairwise
      (fun a b => MapsSep a.2.1 b.2.1) := by
  refine ((zip_pairwise_sep segs drops).filter _).filterMap _ ?_
  intro a a' hR b hb b' hb'
  obtain ⟨r, _, rfl⟩ := Option.map_eq_some_iff.1 hb
  obtain ⟨r', _, rfl⟩ := Option.map_eq_some_iff.1 hb'
  exact hR

theorem partsOf_mono (nm : Name) (k : Bytes) (segs : List Seg) (drops : List (Option (List Nat))) :
    ∀ p ∈ partsOf nm k (focusOf nm segs (remapAll segs drops 0)), MonoMap p.2.1 := by
  intro p hp
  obtain ⟨q, hq, _, _, h⟩ := mem_partsOf.1 hp
  rw [h]
  exact zip_mono segs drops q (mem_focusOf hq)

theorem partsOf_eq_nil {nm : Name} {k : Bytes} {focus : List (Seg × List (Option Nat))}
    (hk : k ∉ keysUnion (itsOf nm focus)) : partsOf nm k focus = [] := by
  rw [List.eq_nil_iff_forall_not_mem]
  intro p hp
  obtain ⟨q, hq, hl, _⟩ := mem_partsOf.1 hp
  refine hk (mem_keysUnion.2 ⟨_, List.mem_map.2 ⟨q, hq, rfl⟩, ?_⟩)
  unfold keysOf
  rw [List.map_map]
  exact List.mem_map.2 ⟨(k, p.2.2), mem_of_lookup_eq_some hl, rfl⟩

end Zap.MergeL
