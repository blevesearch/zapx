/-
  ZapProofs.Syn.Thes: a thesaurus as a value.  What it says about a term, free of internal ids
  (`Thes.pairs`), and what `Seg.synonyms` / `Seg.thesTerms` read from it; the one way both
  `buildThes` and `mergeThes` produce it: number the synonym terms, store per term the bitmap of
  the codes `(number of the synonym, document)` of a relation (`Stores`); what `ThesWF` gives.
-/
import ZapModel.SpecSyn
import ZapProofs.Build.Table

namespace Zap.SynL
open Zap.Spec

theorem lookupG_of_mem {α β : Type} [DecidableEq α] {k : α} {v : β} {l : List (α × β)}
    (hnd : (l.map (·.1)).Nodup) (h : (k, v) ∈ l) : lookup k l = some v :=
  lookup_eq_some_of_mem hnd h

theorem strictTotal_codeLt : StrictTotal CodeLt := strictTotal_natLt.lex strictTotal_natLt

/-- `insertCode` tests `x = y` before the order, `insertUniq` after: the same, `CodeLt` being
    irreflexive. -/
theorem insertCode_eq (x : Nat × Nat) (l : List (Nat × Nat)) :
    insertCode x l = insertUniq CodeLt x l := by
  induction l with
  | nil => rfl
  | cons y ys ih =>
    unfold insertCode insertUniq
    by_cases e : x = y
    · simp [e, strictTotal_codeLt.irrefl y]
    · simp only [e, if_false, ih]; rfl

def insAll (codes l : List (Nat × Nat)) : List (Nat × Nat) := codes.foldl (fun l c => insertCode c l) l

theorem mem_insAll {codes l : List (Nat × Nat)} {z : Nat × Nat} :
    z ∈ insAll codes l ↔ z ∈ codes ∨ z ∈ l := by
  unfold insAll
  induction codes generalizing l with
  | nil => simp
  | cons c cs ih =>
    rw [List.foldl_cons, ih, insertCode_eq, mem_insertUniq, List.mem_cons, or_assoc, or_left_comm]

theorem pairwise_insAll (codes : List (Nat × Nat)) {l : List (Nat × Nat)} (h : l.Pairwise CodeLt) :
    (insAll codes l).Pairwise CodeLt :=
  List.foldl_induction (List.Pairwise CodeLt) h fun l c _ hl => by
    rw [insertCode_eq]
    exact pairwise_insertUniq strictTotal_codeLt c hl

theorem insAll_eq_nil {codes l : List (Nat × Nat)} : insAll codes l = [] ↔ codes = [] ∧ l = [] := by
  simp only [List.eq_nil_iff_forall_not_mem, mem_insAll, not_or, forall_and]

theorem synIdOf_eq_fieldIdOf (ids : List Bytes) (s : Bytes) : synIdOf ids s = fieldIdOf ids s := rfl

theorem synIdOf_append_of_mem {ids : List Bytes} {s : Bytes} (h : s ∈ ids) (more : List Bytes) :
    synIdOf (ids ++ more) s = synIdOf ids s := by
  simp only [synIdOf_eq_fieldIdOf, fieldIdOf_eq_idxOf, List.idxOf_append, h, if_true]

def tableOf (ids : List Bytes) : List (Nat × Bytes) := (ids.zipIdx).map (fun p => (p.2, p.1))

theorem tableOf_ids (ids : List Bytes) : (tableOf ids).map (·.1) = List.range' 0 ids.length := by
  unfold tableOf
  rw [List.map_map]
  exact List.zipIdx_map_snd 0 ids

theorem tableOf_syns (ids : List Bytes) : (tableOf ids).map (·.2) = ids := by
  unfold tableOf
  rw [List.map_map]
  exact List.zipIdx_map_fst 0 ids

theorem lookup_tableOf (ids : List Bytes) (j : Nat) : lookup j (tableOf ids) = ids[j]? := by
  refine Option.ext fun s => ?_
  rw [lookup_eq_some_iff (by rw [tableOf_ids]; exact List.nodup_range' 1),
    ← List.mem_zipIdx_iff_getElem? (x := (s, j))]
  constructor
  · intro h
    obtain ⟨p, hp, e⟩ := List.mem_map.1 h
    cases e
    exact hp
  · exact fun h => List.mem_map.2 ⟨_, h, rfl⟩

theorem lookup_tableOf_synIdOf {ids : List Bytes} {s : Bytes} (h : s ∈ ids) :
    lookup (synIdOf ids s) (tableOf ids) = some s := by
  rw [lookup_tableOf, synIdOf_eq_fieldIdOf]
  exact getElem?_fieldIdOf h

def _root_.Zap.Thes.pairs (t : Thes) (term : Bytes) : List (Bytes × Nat) :=
  ((lookup term t.terms).getD []).map (fun c => ((lookup c.1 t.table).getD [], c.2))

theorem synonyms_eq (s : Seg) (n : Name) (term : Bytes) (ex : Option (List Nat)) :
    s.synonyms n term ex =
      (((s.thes? n).map (·.pairs term)).getD []).filter (fun q => !excluded ex q.2) := by
  unfold Seg.synonyms Thes.pairs
  cases s.thes? n with
  | none => rfl
  | some t =>
    simp only [Option.map_some, Option.getD_some]
    cases lookup term t.terms with
    | none => rfl
    | some cs => simp only [Option.getD_some, List.filter_map]; rfl

theorem mem_synonyms {s : Seg} {n : Name} {term : Bytes} {ex : Option (List Nat)} {q : Bytes × Nat} :
    q ∈ s.synonyms n term ex ↔ (∃ t, s.thes? n = some t ∧ q ∈ t.pairs term) ∧ excluded ex q.2 = false := by
  rw [synonyms_eq, List.mem_filter, Bool.not_eq_true']
  cases s.thes? n <;> simp

theorem mem_synonyms_ex {s : Seg} {n : Name} {term : Bytes} {ex : Option (List Nat)} {q : Bytes × Nat} :
    q ∈ s.synonyms n term ex ↔ q ∈ s.synonyms n term none ∧ excluded ex q.2 = false := by
  rw [mem_synonyms, mem_synonyms (ex := none)]
  simp [excluded]

theorem mem_thesTerms {s : Seg} {n : Name} {k : Bytes} :
    k ∈ s.thesTerms n ↔ ∃ t, s.thes? n = some t ∧ k ∈ t.terms.map (·.1) := by
  unfold Seg.thesTerms
  cases s.thes? n with
  | none => simp only [List.not_mem_nil, reduceCtorEq, false_and, exists_false]
  | some t => simp only [Option.some.injEq, exists_eq_left']

def codesOf (ids : List Bytes) (its : List (Bytes × Nat)) : List (Nat × Nat) :=
  insAll (its.map (fun it => (synIdOf ids it.1, it.2))) []

theorem mem_codesOf {ids : List Bytes} {its : List (Bytes × Nat)} {c : Nat × Nat} :
    c ∈ codesOf ids its ↔ ∃ it ∈ its, c = (synIdOf ids it.1, it.2) := by
  unfold codesOf
  simp only [mem_insAll, List.mem_map, List.not_mem_nil, or_false, eq_comm]

theorem codesOf_eq_nil {ids : List Bytes} {its : List (Bytes × Nat)} : codesOf ids its = [] ↔ its = [] := by
  unfold codesOf
  rw [insAll_eq_nil, List.map_eq_nil_iff, and_iff_left rfl]

/-- `t` stores the relation `R` (term ↦ its (synonym, document) pairs) under the numbering `ids`. -/
structure Stores (t : Thes) (ids : List Bytes) (R : Bytes → List (Bytes × Nat)) : Prop where
  sorted : SortedLt (t.terms.map (·.1))
  table : t.table = tableOf ids
  nodup : ids.Nodup
  known : ∀ k, ∀ it ∈ R k, it.1 ∈ ids
  codes : ∀ k, lookup k t.terms = if R k = [] then none else some (codesOf ids (R k))

section
variable {t : Thes} {ids : List Bytes} {R : Bytes → List (Bytes × Nat)}

theorem Stores.mem_pairs (h : Stores t ids R) (k : Bytes) (q : Bytes × Nat) : q ∈ t.pairs k ↔ q ∈ R k := by
  unfold Thes.pairs
  rw [h.codes k, h.table]
  by_cases hR : R k = []
  · simp [hR]
  · simp only [if_neg hR, Option.getD_some, List.mem_map, mem_codesOf]
    constructor
    · rintro ⟨c, ⟨it, hit, rfl⟩, rfl⟩
      rw [lookup_tableOf_synIdOf (h.known k it hit)]
      exact hit
    · intro hq
      exact ⟨_, ⟨q, hq, rfl⟩, by rw [lookup_tableOf_synIdOf (h.known k q hq)]; rfl⟩

theorem Stores.mem_terms (h : Stores t ids R) (k : Bytes) : k ∈ t.terms.map (·.1) ↔ R k ≠ [] := by
  rw [← lookup_isSome_iff, h.codes k]
  by_cases hR : R k = [] <;> simp [hR]

theorem Stores.wf (h : Stores t ids R) : ThesWF t := by
  have hp : ∀ p ∈ t.terms, R p.1 ≠ [] ∧ p.2 = codesOf ids (R p.1) := by
    intro p hp
    have hl := lookupG_of_mem h.sorted.nodup (k := p.1) (v := p.2) hp
    rw [h.codes] at hl
    split at hl
    · cases hl
    · exact ⟨‹_›, (Option.some.inj hl).symm⟩
  refine ⟨h.sorted, fun p hp' => ?_, fun p hp' c hc => ?_, ?_, ?_⟩
  · obtain ⟨h1, h2⟩ := hp p hp'
    rw [h2]
    exact ⟨fun e => h1 (codesOf_eq_nil.1 e), pairwise_insAll _ List.Pairwise.nil⟩
  · rw [(hp p hp').2] at hc
    obtain ⟨it, hit, rfl⟩ := mem_codesOf.1 hc
    rw [h.table, lookup_tableOf_synIdOf (h.known _ it hit)]
    rfl
  · rw [h.table, tableOf_ids]
    exact List.nodup_range' 1
  · rw [h.table, tableOf_syns]
    exact h.nodup

/-- Both producers end alike: a key-sorted list `l` of code lists, of which the empty ones are
    dropped (so "no entry" and "an empty entry" need not be told apart: `getD`).
    About variables on purpose: with the merge's own `ids` in place, closing the `table` field by
    `rfl` makes Lean unfold `tableOf` over the whole walk. -/
theorem stores_of_lookup {l : List (Bytes × List (Nat × Nat))} (hs : SortedLt (l.map (·.1))) (hnd : ids.Nodup)
    (hknown : ∀ k, ∀ it ∈ R k, it.1 ∈ ids) (hl : ∀ k, (lookup k l).getD [] = codesOf ids (R k)) :
    Stores { terms := l.filter (fun p => !p.2.isEmpty), table := tableOf ids } ids R := by
  refine ⟨hs.map_filter _, rfl, hnd, hknown, fun k => ?_⟩
  show lookup k (l.filter _) = _
  -- `R k = []` says that the codes of `R k` are none, that is, that `lookup k l` gives none or `[]`
  simp only [lookup_filter _ k hs.nodup, ← codesOf_eq_nil (ids := ids), ← hl k]
  cases lookup k l with
  | none => rfl
  | some cs => cases cs <;> rfl

/-- A field's thesaurus, present or not, stores `R`: a producer records no thesaurus only when
    there is nothing to store (`buildSeg_thes_stores`, `mergeSegs_thes_stores`). -/
def OptStores (o : Option Thes) (ids : List Bytes) (R : Bytes → List (Bytes × Nat)) : Prop :=
  match o with
  | none => ∀ k, R k = []
  | some t => Stores t ids R

variable {o : Option Thes}

theorem OptStores.mem_pairs (h : OptStores o ids R) (k : Bytes) (q : Bytes × Nat) :
    (∃ t, o = some t ∧ q ∈ t.pairs k) ↔ q ∈ R k := by
  cases o with
  | none => simp only [reduceCtorEq, false_and, exists_false, (h : ∀ k, R k = []) k, List.not_mem_nil]
  | some t => simpa only [Option.some.injEq, exists_eq_left'] using (h : Stores t ids R).mem_pairs k q

theorem OptStores.mem_terms (h : OptStores o ids R) (k : Bytes) :
    (∃ t, o = some t ∧ k ∈ t.terms.map (·.1)) ↔ R k ≠ [] := by
  cases o with
  | none => simp only [reduceCtorEq, false_and, exists_false, (h : ∀ k, R k = []) k, ne_eq, not_true_eq_false]
  | some t => simpa only [Option.some.injEq, exists_eq_left'] using (h : Stores t ids R).mem_terms k

theorem OptStores.wf (h : OptStores o ids R) {t : Thes} (ht : o = some t) : ThesWF t := by
  subst ht
  exact (h : Stores t ids R).wf

end

theorem thesWF_pairs_nodup {t : Thes} (h : ThesWF t) (term : Bytes) : (t.pairs term).Nodup := by
  unfold Thes.pairs
  cases hl : lookup term t.terms with
  | none => exact List.nodup_nil
  | some cs =>
    have hmem := mem_of_lookup_eq_some hl
    have hcs : cs.Nodup :=
      (h.codesAsc _ hmem).2.imp fun {a b} (hab : CodeLt a b) (e : a = b) => strictTotal_codeLt.irrefl b (e ▸ hab)
    refine hcs.map_on fun a ha b hb e => ?_
    -- both ids are in the table, whose terms are distinct: equal terms, equal ids
    obtain ⟨sa, hla⟩ := Option.isSome_iff_exists.1 (h.idKnown _ hmem a ha)
    obtain ⟨sb, hlb⟩ := Option.isSome_iff_exists.1 (h.idKnown _ hmem b hb)
    rw [hla, hlb] at e
    simp only [Option.getD_some, Prod.mk.injEq] at e
    have := List.inj_on_of_nodup_map h.synsDistinct (mem_of_lookup_eq_some hla) (mem_of_lookup_eq_some hlb) e.1
    exact Prod.ext (Prod.mk.inj this).1 e.2

theorem synonyms_nodup (s : Seg) (n : Name) (term : Bytes) (ex : Option (List Nat))
    (h : ∀ t, s.thes? n = some t → ThesWF t) : (s.synonyms n term ex).Nodup := by
  rw [synonyms_eq]
  cases ht : s.thes? n with
  | none => exact List.nodup_nil
  | some t => exact (thesWF_pairs_nodup (h t ht) term).filter _

theorem thesTerms_sorted (s : Seg) (n : Name) (h : ∀ t, s.thes? n = some t → ThesWF t) :
    SortedLt (s.thesTerms n) := by
  unfold Seg.thesTerms
  cases ht : s.thes? n with
  | none => trivial
  | some t => exact (h t ht).sorted

end Zap.SynL
