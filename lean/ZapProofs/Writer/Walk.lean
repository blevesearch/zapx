/-
  List-level facts about the twins of Layout's posting decoders (ZapModel/Writer.lean): what each
  did when it succeeded (the inversion lemmas the simulation proofs of Writer/LayoutPostings use).
-/
import ZapModel.Writer

namespace Zap.Writer.Walk

theorem nondec_cons (a : Nat) (l : List Nat) :
    nondec (a :: l) = (match l with | [] => true | x :: _ => decide (a ≤ x) && nondec l) := by
  cases l <;> rfl

theorem nondec_iff_pairwise : ∀ {l : List Nat}, nondec l = true ↔ l.Pairwise (· ≤ ·)
  | [] => by simp [nondec]
  | [_] => by simp [nondec]
  | a :: b :: l => by
    rw [nondec, Bool.and_eq_true, decide_eq_true_eq, nondec_iff_pairwise, List.pairwise_cons (a := a)]
    constructor
    · rintro ⟨hab, h⟩
      refine ⟨?_, h⟩
      intro x hx
      rcases List.mem_cons.mp hx with rfl | hx
      · exact hab
      · exact Nat.le_trans hab ((List.pairwise_cons.mp h).1 x hx)
    · rintro ⟨h1, h2⟩
      exact ⟨h1 b (by simp), h2⟩

theorem nondec_getD_le (l : List Nat) (h : nondec l = true) (i j : Nat) (hij : i ≤ j) (hj : j < l.length) :
    l.getD i 0 ≤ l.getD j 0 := by
  rw [nondec_iff_pairwise, List.pairwise_iff_getElem] at h
  rw [List.getD_eq_getElem?_getD, List.getD_eq_getElem?_getD, List.getElem?_eq_getElem hj,
    List.getElem?_eq_getElem (Nat.lt_of_le_of_lt hij hj)]
  rcases Nat.lt_or_eq_of_le hij with h1 | rfl
  · exact h i j _ hj h1
  · exact Nat.le_refl _

theorem cstart_le_cstop (offs : List Nat) (hnd : nondec offs = true) (c : Nat) (hc : c < offs.length) :
    cstart offs c ≤ cstop offs c ∧ cstop offs c ≤ offs.getLastD 0 := by
  refine ⟨?_, ?_⟩
  · unfold cstart cstop Codec.chunkBoundary
    by_cases h0 : c = 0
    · simp [h0]
    · simp only [h0, if_false]
      exact nondec_getD_le offs hnd _ _ (Nat.sub_le c 1) hc
  · rw [List.getLastD_eq_getLast?, List.getLast?_eq_getElem?, ← List.getD_eq_getElem?_getD]
    exact nondec_getD_le offs hnd _ _ (Nat.le_sub_one_of_lt hc) (Nat.sub_lt (Nat.zero_lt_of_lt hc) Nat.one_pos)

theorem readN64_succ_some (n : Nat) (bs : Bytes) (xs : List Nat) (r' : Bytes)
    (h : readN64 (n + 1) bs = some (xs, r')) :
    ∃ v vs r, xs = v :: vs ∧ uv64 bs = some (v, r) ∧ readN64 n r = some (vs, r') := by
  rw [readN64] at h
  split at h
  · cases h
  next v r h1 =>
  split at h
  · cases h
  next vs r'' h2 =>
  cases h
  exact ⟨v, vs, r, rfl, h1, h2⟩

theorem readLoc_some (nb : Nat) (bs : Bytes) (l : MLoc) (r' : Bytes)
    (h : readLoc nb bs = some (l, r')) :
    ∃ fid pos st en nap aps r1 r2 r3 r4 r5,
      uv64 bs = some (fid, r1) ∧ uv64 r1 = some (pos, r2) ∧ uv64 r2 = some (st, r3) ∧
      uv64 r3 = some (en, r4) ∧ uv64 r4 = some (nap, r5) ∧ ¬ nap > nb ∧
      readN64 nap r5 = some (aps, r') ∧
      l = { fid := fid, pos := pos, start := st, stop := en, ap := aps } := by
  revert h
  fun_cases readLoc nb bs with
  | case3 fid pos st en nap r h5 hn aps r'' ha =>
    intro h
    cases h
    obtain ⟨_, xs1, r1, hx1, u1, h4⟩ := readN64_succ_some 4 bs _ r h5
    cases hx1
    obtain ⟨_, xs2, r2, hx2, u2, h3⟩ := readN64_succ_some 3 r1 _ r h4
    cases hx2
    obtain ⟨_, xs3, r3, hx3, u3, h2⟩ := readN64_succ_some 2 r2 _ r h3
    cases hx3
    obtain ⟨_, xs4, r4, hx4, u4, h1⟩ := readN64_succ_some 1 r3 _ r h2
    cases hx4
    obtain ⟨_, xs5, r5, hx5, u5, h0⟩ := readN64_succ_some 0 r4 _ r h1
    cases hx5
    cases h0
    exact ⟨fid, pos, st, en, nap, aps, r1, r2, r3, r4, r, u1, u2, u3, u4, u5, hn, ha, rfl⟩
  | _ =>
    intro h
    cases h

theorem decLocsL_some {d : Nat} {bs : Bytes} {ls : List MLoc} {rest : Bytes}
    (h : decLocsL d bs = some (ls, rest)) :
    ∃ nbytes r, uv64 bs = some (nbytes, r) ∧ nbytes ≤ r.length ∧
      parseLocs nbytes nbytes (r.take nbytes) = some ls ∧ rest = r.drop nbytes := by
  revert h
  fun_cases decLocsL d bs with
  | case4 nbytes r h1 hlen ls' h2 =>
    intro h
    cases h
    exact ⟨nbytes, r, h1, Nat.le_of_not_lt hlen, h2, rfl⟩
  | _ =>
    intro h
    cases h

theorem readChunksL_some {stream : Bytes} {offs : List Nat} {data : Bytes}
    (h : readChunksL stream = some (offs, data)) :
    ∃ n r, uv64 stream = some (n, r) ∧ readN64 n r = some (offs, data) ∧ nondec offs = true ∧
      offs.getLastD 0 ≤ data.length := by
  revert h
  fun_cases readChunksL stream with
  | case5 n r h1 offs' data' h2 hnd hlen =>
    intro h
    cases h
    exact ⟨n, r, h1, h2, by simpa using hnd, Nat.le_of_not_lt hlen⟩
  | _ =>
    intro h
    cases h

section
variable {α : Type} {offs : List Nat} {data : Bytes} {cs : Nat} {dec : Nat → Bytes → Option (α × Bytes)}

theorem walkL_nil_some {ci : Nat} {cur : Bytes} {as : List α} (h : walkL offs data cs dec [] ci cur = some as) :
    as = [] ∧ cur = [] ∧ (offs.length = 0 ∨ cstop offs (offs.length - 1) = cstop offs ci) := by
  simp only [walkL] at h
  split at h
  · next hc => exact ⟨(Option.some.inj h).symm, hc⟩
  · cases h

theorem walkL_cons_some {d : Nat} {ds : List Nat} {ci : Nat} {cur : Bytes} {as : List α}
    (h : walkL offs data cs dec (d :: ds) ci cur = some as) :
    ∃ a as' cur' ci2 cur2, as = a :: as' ∧ ¬ d / cs ≥ offs.length ∧
      ((d / cs = ci ∧ ci2 = ci ∧ cur2 = cur) ∨
       (d / cs ≠ ci ∧ ¬ d / cs < ci ∧ cur = [] ∧ cstart offs (d / cs) = cstop offs ci ∧
        ci2 = d / cs ∧ cur2 = chunkBytes offs data (d / cs))) ∧
      dec d cur2 = some (a, cur') ∧ walkL offs data cs dec ds ci2 cur' = some as' := by
  simp only [walkL] at h
  by_cases hn : d / cs ≥ offs.length
  · rw [if_pos hn] at h
    cases h
  rw [if_neg hn] at h
  by_cases hc : d / cs = ci
  · rw [if_pos hc] at h
    split at h
    · cases h
    next a cur' hd =>
      obtain ⟨as', hw, rfl⟩ := Option.map_eq_some_iff.mp h
      exact ⟨a, as', cur', ci, cur, rfl, hn, Or.inl ⟨hc, rfl, rfl⟩, hd, hw⟩
  rw [if_neg hc] at h
  by_cases hbad : d / cs < ci ∨ cur ≠ [] ∨ cstart offs (d / cs) ≠ cstop offs ci
  · rw [if_pos hbad] at h
    cases h
  rw [if_neg hbad] at h
  split at h
  · cases h
  next a cur' hd =>
    obtain ⟨as', hw, rfl⟩ := Option.map_eq_some_iff.mp h
    refine ⟨a, as', cur', _, _, rfl, hn, Or.inr ⟨hc, ?_, ?_, ?_, rfl, rfl⟩, hd, hw⟩
    · exact fun x => hbad (Or.inl x)
    · exact Classical.byContradiction fun x => hbad (Or.inr (Or.inl x))
    · exact Classical.byContradiction fun x => hbad (Or.inr (Or.inr x))

theorem walkL_length : ∀ (docs : List Nat) (ci : Nat) (cur : Bytes) (as : List α),
    walkL offs data cs dec docs ci cur = some as → as.length = docs.length := by
  intro docs
  induction docs with
  | nil =>
    intro ci cur as h
    exact congrArg List.length (walkL_nil_some h).1
  | cons d ds ih =>
    intro ci cur as h
    obtain ⟨a, as', cur', ci2, cur2, rfl, _, _, _, hw⟩ := walkL_cons_some h
    rw [List.length_cons, List.length_cons, ih _ _ _ hw]

end

end Zap.Writer.Walk
