/-
  Lemmas for C02 (stored fields, ids, DocNumbers): the field table of a built segment, its stored
  documents; the `_id` discipline `IdWF` (a hypothesis of C02) and which documents `Spec.postings`
  lists; the max-key short cut of `DocNumbers`, and `DocNumbers` on any segment whose `_id`
  dictionary lists each id under the documents carrying it (`docNumbers_abstract`).
-/
import ZapProofs.Build.Table

namespace Zap
namespace Stored

theorem ascNat_iff_pairwise : ∀ l : List Nat, AscNat l ↔ l.Pairwise (· < ·) :=
  fun _ => Zap.ascNat_iff_pairwise

theorem fieldTable_nodup (b : Batch) : (fieldTable b).Nodup :=
  Zap.fieldTable_nodup b

theorem fieldTable_head (b : Batch) : (fieldTable b).head? = some idName :=
  (fieldTable_isFieldTable b).1

theorem buildSeg_loadedFields (v : Bool) (mode : Nat) (b : Batch) (hb : b ≠ []) :
    (buildSeg v mode b).loadedFields = (buildSeg v mode b).fields := by
  have hn : (buildSeg v mode b).numDocs = b.length := rfl
  have hlen : b.length ≠ 0 := by simpa using hb
  simp only [Seg.loadedFields, hn, hlen, if_false]

theorem buildSeg_nameOf (v : Bool) (mode : Nat) (b : Batch) (i : Nat) (hi : i < (fieldTable b).length) :
    (buildSeg v mode b).nameOf i = (fieldTable b)[i] := by
  have hl : i < (buildSeg v mode b).fields.length := by
    rw [← List.length_map (f := (·.name)), buildSeg_names]
    exact hi
  unfold Seg.nameOf
  rw [List.getD_eq_getElem?_getD, List.getElem?_eq_getElem hl, Option.getD_some,
    ← List.getElem_map FieldM.name (h := by rw [List.length_map]; exact hl)]
  exact List.getElem_of_eq (buildSeg_names v mode b) _

theorem flatMap_zipIdx_drop {β : Type} (tbl : List Name) (k : Nat) (G : Name × Nat → List β) (F : Name → List β)
    (h : ∀ p ∈ tbl.zipIdx, G p = F p.1) :
    ((tbl.zipIdx).drop k).flatMap G = (tbl.drop k).flatMap F := by
  have e : tbl.drop k = ((tbl.zipIdx).drop k).map Prod.fst := by
    rw [List.map_drop, List.zipIdx_map_fst]
  rw [e, List.flatMap_map]
  exact List.flatMap_congr_mem (fun p hp => h p (List.mem_of_mem_drop hp))

theorem buildSeg_stored_get (v : Bool) (mode : Nat) (b : Batch) (d : Nat) (hd : d < b.length) :
    (buildSeg v mode b).stored[d]? = some (storedDoc (fieldTable b) b[d]) := by
  show (b.map (storedDoc (fieldTable b)))[d]? = _
  rw [List.getElem?_map, List.getElem?_eq_getElem hd, Option.map_some]

/-- The short cut of `DocNumbers` (ids above the maximal key are skipped without a lookup) loses
    nothing. -/
theorem maxkey_shortcut_sound {β : Type} (terms : List (Bytes × β)) (mx : Bytes) (v : β) (id : Bytes)
    (hs : SortedLt (terms.map (·.1))) (hlast : terms.getLast? = some (mx, v))
    (hgt : Bytes.le id mx = false) : lookup id terms = none := by
  obtain ⟨ys, rfl⟩ := List.getLast?_eq_some_iff.mp hlast
  have hlt : Bytes.lt mx id = true := by simpa [Bytes.le] using hgt
  rw [sortedLt_iff_pairwise, List.map_append, List.pairwise_append] at hs
  -- every key is `≤ mx < id`
  rw [lookup_eq_none_iff, List.map_append, List.mem_append]
  rintro (h | h)
  · exact Bytes.ne_of_lt (Bytes.lt_trans (hs.2.2 id h mx (by simp)) hlt) rfl
  · exact Bytes.ne_of_lt hlt (Eq.symm (by simpa using h))

/-- What bleve guarantees about `_id`: each document has exactly one field
    instance named `_id`; it is an ordinary field, indexed with exactly one token
    whose term is the document id, and stored with the document id as value. -/
def IdWFDoc (d : DocIn) : Bool :=
  match d.fields.filter (fun f => f.name = idName) with
  | [f] => f.kind == FKind.fld && f.toks.map (·.term) == [d.id] && f.stored && f.val == d.id
  | _ => false

def IdWF (b : Batch) : Prop := ∀ d ∈ b, IdWFDoc d = true

instance (b : Batch) : Decidable (IdWF b) := by unfold IdWF; infer_instance

theorem idWFDoc_iff (d : DocIn) : IdWFDoc d = true ↔
    ∃ f, d.fields.filter (fun f => f.name = idName) = [f] ∧ f.kind = FKind.fld ∧
      f.toks.map (·.term) = [d.id] ∧ f.stored = true ∧ f.val = d.id := by
  unfold IdWFDoc
  split
  · next f hf =>
    simp only [hf, Bool.and_eq_true, beq_iff_eq, List.cons.injEq, and_true, exists_eq_left',
      and_assoc]
  · next hne =>
    constructor
    · intro h; cases h
    · rintro ⟨f, hf, _⟩; exact absurd hf (hne f)

theorem storedInsts_id_of_idWF {d : DocIn} (h : IdWFDoc d = true) :
    ((storedInsts d idName).head?.map (·.val)).getD [] = d.id := by
  obtain ⟨f, hf, hk, _, hst, hval⟩ := (idWFDoc_iff d).mp h
  have : storedInsts d idName = [f] := by
    unfold storedInsts
    rw [List.filter_filter]
    have : (fun (a : FieldIn) => (decide (a.name = idName) && a.stored) && (a.kind != FKind.comp)) =
        (fun a => (a.stored && (a.kind != FKind.comp)) && decide (a.name = idName)) := by
      funext a; rw [Bool.and_assoc, Bool.and_comm]
    rw [this, ← List.filter_filter, hf]
    simp [hk, hst]
  simp [this, hval]

theorem hasTerm_iff (t : Bytes) (is : List FieldIn) :
    Spec.hasTerm t is = true ↔ ∃ f ∈ is, t ∈ f.toks.map (·.term) := by
  simp only [Spec.hasTerm, List.any_eq_true, decide_eq_true_eq, List.mem_map]

theorem hasTerm_id_iff (v : Bool) {d : DocIn} (h : IdWFDoc d = true) (t : Bytes) :
    Spec.hasTerm t (Spec.insts v d idName) = true ↔ t = d.id := by
  obtain ⟨f, hf, hk, htoks, _, _⟩ := (idWFDoc_iff d).mp h
  have hmem : ∀ g, g ∈ Spec.insts v d idName ↔ g = f := by
    intro g
    have h1 : g ∈ d.fields.filter (fun f => f.name = idName) ↔ g = f := by rw [hf]; simp
    simp only [List.mem_filter, decide_eq_true_eq] at h1
    simp only [Spec.insts, List.mem_filter, mem_visitOrder, decide_eq_true_eq]
    constructor
    · rintro ⟨⟨hg, _⟩, hn⟩; exact h1.mp ⟨hg, hn⟩
    · intro e
      obtain ⟨hg, hn⟩ := h1.mpr e
      refine ⟨⟨hg, ?_⟩, hn⟩
      subst e; simp [invProcessed, hk]
  rw [hasTerm_iff]
  constructor
  · rintro ⟨g, hg, ht⟩
    rw [(hmem g).mp hg, htoks] at ht
    simpa using ht
  · intro e
    exact ⟨f, (hmem f).mpr rfl, by rw [htoks, e]; simp⟩

theorem mem_postings_doc (v : Bool) (b : Batch) (n : Name) (t : Bytes) (k : Nat) :
    k ∈ (Spec.postings v b n t).map (·.doc) ↔
      ∃ h : k < b.length, Spec.hasTerm t (Spec.insts v b[k] n) = true := by
  simp only [Spec.postings, List.mem_map, List.mem_filterMap]
  constructor
  · rintro ⟨hit, ⟨⟨d, i⟩, hp, hh⟩, rfl⟩
    obtain ⟨hi, hx⟩ := List.mem_zipIdx' hp
    simp only [Spec.hitOf] at hh
    split at hh
    · next ht =>
      simp only [Option.some.injEq] at hh
      subst hh
      exact ⟨hi, by rw [← hx]; exact ht⟩
    · cases hh
  · rintro ⟨hk, ht⟩
    exact ⟨{ doc := k, freq := Spec.freqOf t (Spec.insts v b[k] n),
             norm := normOf (sumList ((Spec.insts v b[k] n).map (·.len))) (Spec.freqOf t (Spec.insts v b[k] n)),
             locs := Spec.locsOf n t (Spec.insts v b[k] n) },
      ⟨(b[k], k), by rw [List.mem_zipIdx_iff_getElem?]; simp [hk], by simp [Spec.hitOf, ht]⟩, rfl⟩

theorem specDocNumbers_pairwise (b : Batch) (ids : List Bytes) : (Spec.docNumbers b ids).Pairwise (· < ·) := by
  unfold Spec.docNumbers
  rw [List.pairwise_map]
  exact (List.pairwise_snd_zipIdx b 0).filter _

theorem mem_specDocNumbers (b : Batch) (ids : List Bytes) (k : Nat) :
    k ∈ Spec.docNumbers b ids ↔ ∃ h : k < b.length, b[k].id ∈ ids := by
  simp only [Spec.docNumbers, List.mem_map, List.mem_filter, List.contains_iff_mem]
  constructor
  · rintro ⟨⟨d, i⟩, ⟨hp, hc⟩, rfl⟩
    obtain ⟨hi, hx⟩ := List.mem_zipIdx' hp
    exact ⟨hi, by rw [← hx]; exact hc⟩
  · rintro ⟨hk, hm⟩
    exact ⟨(b[k], k), ⟨by rw [List.mem_zipIdx_iff_getElem?]; simp [hk], hm⟩, rfl⟩

/-- The last line of `Seg.docNumbers`. -/
theorem sortDedupNat_spec (hits : List Nat) :
    ((hits.foldl (fun acc d => if acc.contains d then acc else acc ++ [d]) []).mergeSort (· ≤ ·)).Pairwise (· < ·) ∧
    ∀ x, x ∈ (hits.foldl (fun acc d => if acc.contains d then acc else acc ++ [d]) []).mergeSort (· ≤ ·) ↔ x ∈ hits := by
  obtain ⟨_, hn, hm⟩ := List.foldl_addNew_spec hits []
  replace hn := hn List.nodup_nil
  simp only [List.not_mem_nil, false_or] at hm
  generalize hits.foldl _ [] = l at hn hm
  have hperm := List.mergeSort_perm l (fun a b => decide (a ≤ b))
  refine ⟨?_, fun x => by rw [hperm.mem_iff, hm]⟩
  have hle := List.pairwise_mergeSort (le := fun a b : Nat => decide (a ≤ b))
    (fun a b c h1 h2 => decide_eq_true (Nat.le_trans (of_decide_eq_true h1) (of_decide_eq_true h2)))
    (fun a b => by simpa using Nat.le_total a b) l
  -- ascending and duplicate free, hence strictly ascending
  exact (hle.and (hperm.nodup_iff.2 hn)).imp fun h => Nat.lt_of_le_of_ne (of_decide_eq_true h.1) h.2

theorem docNumbers_pairwise (s : Seg) (ids : List Bytes) : (s.docNumbers ids).Pairwise (· < ·) := by
  unfold Seg.docNumbers
  by_cases he : s.fieldNames.isEmpty = true
  · rw [if_pos he]
    exact List.Pairwise.nil
  · rw [if_neg he]
    dsimp only
    split
    · exact List.Pairwise.nil
    · exact (sortDedupNat_spec _).1

theorem mem_docNumbers {s : Seg} (hne : s.fieldNames.isEmpty = false)
    (hsorted : SortedLt ((s.dictTerms idName).map (·.1))) (ids : List Bytes) (k : Nat) :
    k ∈ s.docNumbers ids ↔
      ∃ id ∈ ids, ∃ r, lookup id (s.dictTerms idName) = some r ∧ k ∈ r.docs := by
  unfold Seg.docNumbers
  rw [hne, if_neg Bool.false_ne_true]
  dsimp only
  cases hlast : (s.dictTerms idName).getLast? with
  | none =>
    rw [List.getLast?_eq_none_iff.1 hlast]
    simp [lookup]
  | some mv =>
    obtain ⟨mx, v⟩ := mv
    dsimp only
    rw [(sortDedupNat_spec _).2, List.mem_flatMap]
    refine exists_congr fun id => and_congr_right fun _ => ?_
    cases hr : lookup id (s.dictTerms idName) with
    | none => simp
    | some r =>
      -- a key that is found is not above the last key
      have hle : Bytes.le id mx = true := by
        cases hle : Bytes.le id mx with
        | true => rfl
        | false => rw [maxkey_shortcut_sound _ mx v id hsorted hlast hle] at hr; cases hr
      rw [if_pos hle]
      simp

theorem docNumbers_abstract (s : Seg) (b : Batch) (hne : s.fieldNames.isEmpty = false)
    (hsorted : SortedLt ((s.dictTerms idName).map (·.1)))
    (hdocs : ∀ id k, (∃ r, lookup id (s.dictTerms idName) = some r ∧ k ∈ r.docs) ↔
      ∃ h : k < b.length, b[k].id = id)
    (ids : List Bytes) : s.docNumbers ids = Spec.docNumbers b ids := by
  refine List.Pairwise.eq_of_mem_iff (fun _ _ h h' => Nat.lt_asymm h h')
    (docNumbers_pairwise s ids) (specDocNumbers_pairwise b ids) fun k => ?_
  rw [mem_docNumbers hne hsorted, mem_specDocNumbers]
  simp only [hdocs]
  exact ⟨fun ⟨_, hid, h, e⟩ => ⟨h, e ▸ hid⟩, fun ⟨h, hm⟩ => ⟨_, hm, h, rfl⟩⟩

end Stored
end Zap
