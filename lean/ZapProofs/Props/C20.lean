/-
  C20: reference counting of opened segments - the release (`closeActual`: unmap, close fd)
  happens exactly once, at the last reference, never earlier, under every interleaving of
  concurrent holders.

  Sequential histories: `RefCount.release_once` (ZapProofs/Theory/Ref.lean).  Concurrent holders:
  `Crit.atomic` (ZapProofs/Theory/Crit.lean: operations executed entirely under one mutex are
  atomic), so every interleaving is one of those histories.  That no write of `refs` overlaps
  another access of `refs` is `C11.Lockset.C11_lockset "Segment.refs"`.

  CHECKED AGAINST THE SOURCE ON EVERY RUN (on generated facts)
  * `refSideCondition`: `AddRef` = lock; refs++; unlock.  `DecRef` = lock; refs--;
    if refs==0 {closeActual}; unlock; return err.  `Close` = return DecRef.  `Open` sets
    `refs=1` and contains no other statement about `refs`.
  * `C11.Lockset.lockSideCondition` (ZapProofs/Props/C11.lean): every access to `Segment.refs`
    holds `Segment.m`, and `AddRef` / `DecRef` accesses are present.

  MODELLED, NOT VERIFIED
  * `RefSt.step` (ZapModel/Life.lean) is the MEANING GIVEN to those statement shapes:
    `addRef` for `refs++`; `decRef`/`close` for `refs--; if refs==0 {closeActual}`, with
    `releases` counting runs of `closeActual`.  That link is by reading (the shapes are short
    enough to read: see `refImpl` below, which spells the same thing in micro-steps and is
    proved equal to `RefSt.step`), and by the differential run (C20 (B): all balanced
    sequences up to length 7, in the thorough tier 11).
  * What `closeActual` does (munmap, close) and its error are OS behaviour: observed by the
    harness, not modelled.
  * The Go memory model is outside: the model's steps are sequentially consistent.
  * Callers holding no reference and calling `AddRef` after the last `DecRef` are outside the
    hypothesis (count discipline); `use_after_release_example` shows what the code then does.
-/
import ZapModel.Gen.Facts
import ZapModel.Theory.Str
import ZapProofs.Theory.Ref
import ZapProofs.Theory.Crit

namespace Zap.C20
open Zap.Gen Zap.Theory Zap.Theory.RefCount

/-- Decidable side condition on `Gen.Facts.refBodies`:
    * exactly the four expected functions, in order, none UNRECOGNISED;
    * `AddRef`, `DecRef`, `Close` have exactly the expected statement shapes;
    * `Open` contains `refs=1`, and that is its only statement mentioning `refs` outside
      `other:` text, and no `other:` text of `Open` mentions `refs` either. -/
def refSideCondition (rb : List (String × List String)) : Bool :=
  rb.map (·.1) == ["Segment.AddRef", "Segment.DecRef", "Segment.Close", "ZapPlugin.Open"]
  && rb.all (fun p => !unrec p.1 && allRecognised p.2)
  && rb.lookup "Segment.AddRef" == some ["lock", "refs++", "unlock"]
  && rb.lookup "Segment.DecRef"
      == some ["lock", "refs--", "if refs==0 {closeActual}", "unlock", "return err"]
  && rb.lookup "Segment.Close" == some ["return DecRef"]
  && (match rb.lookup "ZapPlugin.Open" with
      | some b => b.contains "refs=1" && (b.filter (hasSub "refs")) == ["refs=1"]
      | none => false)

/-- INSTANCE: the obligation that breaks when segment.go changes. -/
theorem refSideCondition_holds : refSideCondition Facts.refBodies = true := by decide +kernel

/-- The clauses of `refSideCondition`, by name, so that a violating table is refuted at the clause
    that rejects it (why: `C17.Checked`). -/
structure Checked (rb : List (String × List String)) : Prop where
  fns : (rb.map (·.1) == ["Segment.AddRef", "Segment.DecRef", "Segment.Close", "ZapPlugin.Open"])
    = true
  recognised : rb.all (fun p => !unrec p.1 && allRecognised p.2) = true
  addRef : (rb.lookup "Segment.AddRef" == some ["lock", "refs++", "unlock"]) = true
  decRef : (rb.lookup "Segment.DecRef"
      == some ["lock", "refs--", "if refs==0 {closeActual}", "unlock", "return err"]) = true
  close : (rb.lookup "Segment.Close" == some ["return DecRef"]) = true
  opens : (match rb.lookup "ZapPlugin.Open" with
      | some b => b.contains "refs=1" && (b.filter (hasSub "refs")) == ["refs=1"]
      | none => false) = true

theorem checked {rb : List (String × List String)} (h : refSideCondition rb = true) :
    Checked rb := by
  simp only [refSideCondition, Bool.and_eq_true] at h
  obtain ⟨⟨⟨⟨⟨h1, h2⟩, h3⟩, h4⟩, h5⟩, h6⟩ := h
  exact ⟨h1, h2, h3, h4, h5, h6⟩

/-- The lock facts for `Segment.refs` (part of `C11.Lockset.lockSideCondition_holds`, restated
    for this location): every extracted access to `refs` holds exactly `["m"]`, and `AddRef` and
    `DecRef` write it. -/
theorem refs_always_under_m :
    (Facts.lockFacts.filter (·.location == "Segment.refs")).all (·.held == ["m"]) = true
    ∧ (Facts.lockFacts.any fun f => f.fn == "Segment.AddRef" && f.location == "Segment.refs"
                                      && f.access == "write") = true
    ∧ (Facts.lockFacts.any fun f => f.fn == "Segment.DecRef" && f.location == "Segment.refs"
                                      && f.access == "write") = true := by decide +kernel

/-- C20 (sequential histories): released exactly once, at the last reference, never earlier. -/
theorem C20_release_once (ops : List RefOp)
    (hpos : ∀ pre, pre <+: ops → pre ≠ ops → 1 ≤ count 1 pre)
    (hzero : count 1 ops = 0) :
    (RefSt.run {} ops).releases = 1
    ∧ ∀ pre, pre <+: ops → pre ≠ ops → (RefSt.run {} pre).releases = 0 :=
  release_once ops hpos hzero

/-- `Close = DecRef` (`refBodies`: `Close` is `return DecRef`; in the model the two ops step
    identically). -/
theorem close_eq_decRef (s : RefSt) : s.step .close = s.step .decRef := rfl

/-- The statement shapes of `refBodies` as micro-steps under the mutex (scratch = the value
    read by `refs++` / `refs--`):  `refs++` = read, write;  `refs--` = read, write;
    `if refs==0 {closeActual}` = read-and-release. -/
def refImpl : RefOp → List (Crit.Micro RefSt Int)
  | .addRef => [fun s _ => (s, s.refs), fun s l => ({ s with refs := l + 1 }, l)]
  | .decRef | .close =>
    [fun s _ => (s, s.refs), fun s l => ({ s with refs := l - 1 }, l),
     fun s l => (if s.refs = 0 then { s with releases := s.releases + 1 } else s, l)]

theorem refImpl_sem (op : RefOp) (s : RefSt) : Crit.opSem 0 (refImpl op) s = s.step op := by
  cases op
  · rfl
  -- `refs--` and the release test in one record: the constructor goes through the `if`
  all_goals exact (apply_ite (RefSt.mk (s.refs - 1)) _ _ _).symm

theorem seqRun_eq_run (s : RefSt) (ops : List RefOp) :
    Crit.seqRun refImpl 0 s ops = RefSt.run s ops := by
  induction ops generalizing s with
  | nil => rfl
  | cons op rest ih =>
    simp only [Crit.seqRun, List.foldl_cons, RefSt.run] at ih ⊢
    rw [refImpl_sem]; exact ih _

/-- C20 (concurrent holders are sequentialisable): any number of goroutines, each issuing any
    sequence of AddRef / DecRef / Close, each executed under the segment's mutex as extracted.
    For EVERY schedule: the log of operations (in the order they took the mutex) is a merge of
    the goroutines' programs, and whenever the mutex is free the segment's (refs, releases) is
    exactly `RefSt.run {}` of that log. -/
theorem C20_concurrent (progs : Nat → List RefOp) (sched : List Nat) :
    let s := Crit.exec refImpl true 0 (Crit.init {} 0 progs) sched
    (∀ i, Crit.logOf s.log i ++ (s.thr i).todo = progs i)
    ∧ (s.owner = none → s.shared = RefSt.run {} (s.log.map (·.2))) := by
  have h := Crit.atomic refImpl 0 ({} : RefSt) progs sched
  refine ⟨h.1, fun ho => ?_⟩
  rw [← seqRun_eq_run]; exact h.2.1 ho

/-- C20 (full statement): under EVERY interleaving, at any instant the mutex is free, with `ops`
    the operations performed so far in mutex order:
    * if the count stayed >= 1 on every prefix (references outstanding): nothing released yet;
    * if the count stayed >= 1 on every proper prefix and is now 0 (the last reference was just
      dropped): released exactly once. -/
theorem C20_concurrent_release (progs : Nat → List RefOp) (sched : List Nat) :
    let s := Crit.exec refImpl true 0 (Crit.init {} 0 progs) sched
    let ops := s.log.map (·.2)
    s.owner = none →
      ((∀ pre, pre <+: ops → 1 ≤ count 1 pre) → s.shared.releases = 0)
      ∧ ((∀ pre, pre <+: ops → pre ≠ ops → 1 ≤ count 1 pre) → count 1 ops = 0 →
            s.shared.releases = 1) := by
  intro s ops ho
  have hs : s.shared = RefSt.run {} ops := (C20_concurrent progs sched).2 ho
  refine ⟨fun hpos => ?_, fun hpos hz => ?_⟩
  · rw [hs]
    have := no_release {} ops (by
      intro q hq _
      have := hpos q hq
      show count 1 q ≠ 0
      omega)
    simpa using this
  · rw [hs]; exact (release_once ops hpos hz).1

/-- Hypotheses satisfiable (executable check), e.g. two extra holders. -/
example : lastRefAtEnd 1 [.addRef, .addRef, .decRef, .close, .decRef] = true := by decide
example : (RefSt.run {} [.addRef, .addRef, .decRef, .close, .decRef]).releases = 1 :=
  (release_once_of_check _ (by decide)).1

/-- Outside the hypothesis (AddRef after the last reference was dropped) the code releases
    twice: the hypothesis is needed, not decoration. -/
theorem use_after_release_example :
    lastRefAtEnd 1 [.decRef, .addRef, .decRef] = false
    ∧ (RefSt.run {} [.decRef, .addRef, .decRef]).releases = 2 := by decide

/-- Without the mutex (`locked = false`) the SAME micro-steps are not atomic: two goroutines
    dropping the last two references both see `refs == 0` and both release (double unmap),
    although the history `[addRef, decRef, decRef]` satisfies the count discipline. -/
example :
    lastRefAtEnd 1 [.addRef, .decRef, .decRef] = true
    ∧ (Crit.exec refImpl false 0 (Crit.init {} 0 (fun i => [[.addRef, .decRef], [.decRef]].getD i []))
        [0, 0, 0, 0,      -- goroutine 0: AddRef completely (refs = 2)
         0, 0, 0,         -- goroutine 0: DecRef: start, read 2, write 1
         1, 1, 1,         -- goroutine 1: DecRef: start, read 1, write 0
         0, 1]            -- both now test refs == 0
       ).shared.releases = 2 := by decide +kernel

/-- The same schedule with the mutex: goroutine 1 blocks until goroutine 0 is done; one release
    at most (here the run is not finished: goroutine 1 has not yet entered). -/
example :
    (Crit.exec refImpl true 0 (Crit.init {} 0 (fun i => [[.addRef, .decRef], [.decRef]].getD i []))
        [0, 0, 0, 0, 0, 0, 0, 1, 1, 1, 0, 1]).shared.releases = 0 := by decide +kernel

/-! The side condition rejects: `DecRef` that forgets the zero test; `AddRef` without the lock;
    `Open` starting at 0; an extraction failure. -/

def withBody (fn : String) (b : List String) : List (String × List String) :=
  Facts.refBodies.map fun p => if p.1 == fn then (fn, b) else p

example : refSideCondition (withBody "Segment.DecRef" ["lock", "refs--", "unlock", "return err"])
    = false :=
  Bool.eq_false_iff.mpr fun h => absurd (checked h).decRef (by decide +kernel)
example : refSideCondition (withBody "Segment.AddRef" ["refs++"]) = false :=
  Bool.eq_false_iff.mpr fun h => absurd (checked h).addRef (by decide +kernel)
example : refSideCondition (withBody "ZapPlugin.Open" ["refs=0", "return rv, nil"]) = false :=
  Bool.eq_false_iff.mpr fun h => absurd (checked h).opens (by decide +kernel)
example : refSideCondition (withBody "ZapPlugin.Open" ["refs=1", "refs++", "return rv, nil"])
    = false :=
  Bool.eq_false_iff.mpr fun h => absurd (checked h).opens (by decide +kernel)
example : refSideCondition (withBody "Segment.Close" ["other:UNRECOGNISED"]) = false :=
  Bool.eq_false_iff.mpr fun h => absurd (checked h).recognised (by decide +kernel)
example : refSideCondition (Facts.refBodies.drop 1) = false :=
  Bool.eq_false_iff.mpr fun h => absurd (checked h).fns (by decide +kernel)

end Zap.C20

#print axioms Zap.Theory.RefCount.release_once
#print axioms Zap.Theory.Crit.atomic
#print axioms Zap.C20.refSideCondition_holds
#print axioms Zap.C20.refs_always_under_m
#print axioms Zap.C20.C20_release_once
#print axioms Zap.C20.C20_concurrent
#print axioms Zap.C20.C20_concurrent_release
