/-
  Lemmas for C07, reuse clause (preallocated postings lists and iterators passed back in): what a
  recycled object denotes, and that it behaves as the fresh one.
-/
import ZapModel.Reuse
import ZapProofs.Read.Posting

namespace Zap.Reuse

theorem alignStream_self (es : List Entry) : alignStream (es.map (·.doc)) es = es := by
  induction es with
  | nil => rfl
  | cons e es ih => simp [alignStream, ih]

/-- a FOUND term, general encoding: no flag is needed, `FromBuffer` REPLACES the bitmap's content -/
theorem view_lookup_general (fl : Flags) (old : Option PLObj) (tgt : PList) (es : List Entry)
    (h : tgt.rep = some (.general es)) : (PLObj.lookup fl old tgt).view = tgt := by
  obtain ⟨rep, ex, cs, names⟩ := tgt
  simp only at h
  subst h
  unfold PLObj.lookup
  cases old <;> simp [PLObj.read, PLObj.init, PLObj.view, PLObj.zero, alignStream_self]

/-- a FOUND term, 1-hit encoding: every accessor tests `normBits1Hit` before it looks at `postings`,
    so the retained bitmap is invisible; `chunkSize` stays 0 (`init1Hit` does not compute it) -/
theorem view_lookup_oneHit (fl : Flags) (old : Option PLObj) (tgt : PList) (d nb : Nat)
    (h : tgt.rep = some (.oneHit d nb)) : (PLObj.lookup fl old tgt).view = { tgt with chunkSize := 0 } := by
  obtain ⟨rep, ex, cs, names⟩ := tgt
  simp only at h
  subst h
  unfold PLObj.lookup
  cases old <;> rfl

/-- an ABSENT term on a recycled object whose bitmap was `Clear()`ed: where the retained bitmap
    pointer is non-nil the object denotes not `none` but an empty general list -/
theorem view_lookup_absent (fl : Flags) (hfl : fl.postings = true) (o : PLObj) (tgt : PList)
    (h : tgt.rep = none) :
    (PLObj.lookup fl (some o) tgt).view =
      { rep := (o.postings.map (fun _ => PostRep.general [])), except := tgt.except, chunkSize := 0,
        names := tgt.names } := by
  unfold PLObj.lookup
  rw [h]
  simp only [PLObj.init, PLObj.view, PLObj.zero, hfl, if_true]
  cases o.postings <;> rfl

theorem view_lookup_absent_fresh (fl : Flags) (tgt : PList) (h : tgt.rep = none) :
    (PLObj.lookup fl none tgt).view = { rep := none, except := none, chunkSize := 0, names := [] } := by
  unfold PLObj.lookup
  rw [h]
  rfl

/-! ### lists that denote nothing behave alike -/

/-- no hits: term absent, or an empty (cleared) bitmap -/
def Hollow (p : PList) : Prop := p.rep = none ∨ p.rep = some (.general [])

theorem run_of_live_nil {i : It} (h : i.live = []) (ops : List Op) :
    i.run ops = ops.map (fun _ => none) := by
  induction ops with
  | nil => rfl
  | cons op ops ih =>
    have hs : i.step op = (i, none) := by
      unfold It.step
      simp only [nextDoc_of_live_nil h]
    simp [It.run, hs, ih]

theorem hollow_count {p : PList} (h : Hollow p) : p.count = 0 := by
  rcases h with h | h <;> simp [PList.count, h]

theorem hollow_live {p : PList} (h : Hollow p) (f n l : Bool) : (It.create p f n l).live = [] := by
  rcases h with h | h <;> simp [It.live, It.create, h]

theorem hollow_run {p : PList} (h : Hollow p) (f n l : Bool) (ops : List Op) :
    (It.create p f n l).run ops = ops.map (fun _ => none) :=
  run_of_live_nil (hollow_live h f n l) ops

/-- same `Count`, same actual bitmap / 1-hit accessor, same answers to every call sequence -/
def Beh (p q : PList) : Prop :=
  p.count = q.count ∧ ∀ f n l, (It.create p f n l).live = (It.create q f n l).live ∧
    ∀ ops, (It.create p f n l).run ops = (It.create q f n l).run ops

theorem beh_hollow {p q : PList} (hp : Hollow p) (hq : Hollow q) : Beh p q := by
  refine ⟨by rw [hollow_count hp, hollow_count hq], fun f n l => ⟨?_, fun ops => ?_⟩⟩
  · rw [hollow_live hp, hollow_live hq]
  · rw [hollow_run hp, hollow_run hq]

/-- the chunk size of a 1-hit list is never looked at -/
theorem beh_oneHit (p : PList) (d nb cs : Nat) (h : p.rep = some (.oneHit d nb)) :
    Beh { p with chunkSize := cs } p := by
  have hq : ({ p with chunkSize := cs } : PList).rep = some (.oneHit d nb) := h
  refine ⟨by simp [PList.count, h], fun f n l => ⟨by simp [It.live, It.create, h], fun ops => ?_⟩⟩
  have e1 := run_sim (f := f) (n := n) (l := l) ops _ _
    (sim_create { p with chunkSize := cs } (by simp [PList.entries, h, Asc]) (by intro es he; simp [h] at he) f n l)
  have e2 := run_sim (f := f) (n := n) (l := l) ops _ _
    (sim_create p (by simp [PList.entries, h, Asc]) (by intro es he; simp [h] at he) f n l)
  rw [e1, e2]
  rfl

/-! ### the iterator object: the slot buffers are transparent -/

theorem fillLocs_shown (s : Slots Loc) (new : List Loc) : (fillLocs s new).2 = new := by
  unfold fillLocs
  dsimp only
  rw [List.take_left' List.length_take, List.take_append_drop]

theorem step_it (o : ItObj) (op : Op) :
    (o.step op).1.it = (o.it.step op).1 ∧ (o.step op).2 = (o.it.step op).2 := by
  unfold ItObj.step
  cases hs : o.it.step op with
  | mk i h =>
    cases h with
    | none => exact ⟨rfl, rfl⟩
    | some h =>
      simp only
      split
      · refine ⟨rfl, ?_⟩
        simp only [fillLocs_shown]
      · exact ⟨rfl, rfl⟩

theorem run_it (o : ItObj) (ops : List Op) : o.run ops = o.it.run ops := by
  induction ops generalizing o with
  | nil => rfl
  | cons op ops ih =>
    obtain ⟨h1, h2⟩ := step_it o op
    simp only [ItObj.run, It.run]
    rw [ih, h1, h2]

theorem bytes1Hit_shown (buf : Option (List Nat)) (enc : List Nat) : (bytes1Hit buf enc).2 = enc := by
  unfold bytes1Hit
  simp

theorem recycle_it (fl : Flags) (h1 : fl.freqNormReader = true) (h2 : fl.locReader = true)
    (old : Option ItObj) (src : Src) (p : PList) (f n l : Bool) :
    (ItObj.recycle fl old src p f n l).it = It.create p f n l := by
  unfold ItObj.recycle
  cases hrep : p.rep with
  | none => rfl
  | some r =>
    cases old with
    | none => cases r <;> rfl
    | some o =>
      -- with both readers reset no chunk state of the old object is kept, and `create` starts
      -- with none
      cases r <;> simp only [h1, h2, Bool.not_true, Bool.and_false, Bool.false_eq_true, if_false]
      · rw [create_general hrep]
      · rw [create_oneHit hrep]

/-- `newChunkedIntDecoder` takes nothing but `bytesRead` from the reader it is given, and
    `reset()` has zeroed that -/
theorem newDecoder_reset (d : Nat) (offs : List Nat) (r : Option Reader) :
    newDecoder d offs (r.map Reader.reset) = newDecoder d offs none := by
  cases r <;> rfl

end Zap.Reuse
