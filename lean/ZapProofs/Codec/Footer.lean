/-
  ZapProofs.Codec.Footer: the footer as `persistFooter` writes it and `loadConfig` reads it, over
  the GENERATED tables `Gen.Facts.footerWrites` / `footerReads`: a field read by name is the value
  written (`fields_roundtrip` for any writer table, `footer_roundtrip` at the generated ones).
-/
import ZapProofs.Codec.Crc
import ZapModel.Gen.Facts

namespace Zap.Codec

/-- `persistFooter`: the fields of `footerWrites`, big-endian, in write order. -/
def encodeFields (ws : List (String × Nat)) (vals : String → Nat) : Bytes :=
  ws.flatMap (fun w => beBytes w.2 (vals w.1))

def encodeFooter (vals : String → Nat) : Bytes := encodeFields Gen.Facts.footerWrites vals

/-- `loadConfig`: big-endian value of the `width` bytes starting `dist` bytes
    before the end of the file, per the generated `footerReads` table. -/
def decodeField (file : Bytes) (name : String) : Option Nat :=
  match lookup name Gen.Facts.footerReads with
  | none => none
  | some (dist, width) =>
    if dist ≤ file.length then some (be64 ((file.drop (file.length - dist)).take width))
    else none

/-- Reader field name ↦ writer value name (`version` is written from the
    constant `Version`). -/
def writeName : String → String
  | "version" => "Version"
  | s => s

def totalWidth (ws : List (String × Nat)) : Nat := (ws.map (·.2)).sum

/-- Where the writer puts `name`: (distance of its first byte from the end, width). -/
def distOf (name : String) : List (String × Nat) → Option (Nat × Nat)
  | [] => none
  | (n, w) :: rest => if n = name then some (w + totalWidth rest, w) else distOf name rest

theorem encodeFields_length (ws : List (String × Nat)) (vals : String → Nat) :
    (encodeFields ws vals).length = totalWidth ws := by
  induction ws with
  | nil => rfl
  | cons w ws ih =>
    simp only [encodeFields, List.flatMap_cons, List.length_append, beBytes_length, totalWidth,
      List.map_cons, List.sum_cons] at ih ⊢
    rw [ih]

theorem encodeFields_cons (w : String × Nat) (ws : List (String × Nat)) (vals : String → Nat) :
    encodeFields (w :: ws) vals = beBytes w.2 (vals w.1) ++ encodeFields ws vals := by
  simp [encodeFields]

theorem encodeFields_append (ws₁ ws₂ : List (String × Nat)) (vals : String → Nat) :
    encodeFields (ws₁ ++ ws₂) vals = encodeFields ws₁ vals ++ encodeFields ws₂ vals := by
  simp [encodeFields]

theorem encodeFields_congr (ws : List (String × Nat)) (v₁ v₂ : String → Nat)
    (h : ∀ w ∈ ws, v₁ w.1 = v₂ w.1) : encodeFields ws v₁ = encodeFields ws v₂ := by
  induction ws with
  | nil => rfl
  | cons w ws ih =>
    rw [encodeFields_cons, encodeFields_cons, h w (by simp), ih (fun x hx => h x (by simp [hx]))]

theorem encodeFields_bytes (ws : List (String × Nat)) (vals : String → Nat) :
    ∀ x ∈ encodeFields ws vals, x < 256 := by
  intro x hx
  simp only [encodeFields, List.mem_flatMap] at hx
  obtain ⟨w, _, hxw⟩ := hx
  exact beBytes_bytes _ _ x hxw

/-- Any writer table `ws`, any reader row `(dist, width)` that points where `distOf` finds the
    field: the reader gets the value the writer put there. -/
theorem fields_roundtrip (vals : String → Nat) (name : String) (ws : List (String × Nat)) :
    ∀ (body : Bytes) (dist width : Nat), distOf name ws = some (dist, width) →
      (∀ w ∈ ws, vals w.1 < 256 ^ w.2) →
      dist ≤ (body ++ encodeFields ws vals).length ∧
      be64 (((body ++ encodeFields ws vals).drop
        ((body ++ encodeFields ws vals).length - dist)).take width) = vals name := by
  induction ws with
  | nil => intro body dist width h; simp [distOf] at h
  | cons w ws ih =>
    intro body dist width h hfit
    obtain ⟨n, wd⟩ := w
    simp only [distOf] at h
    by_cases hn : n = name
    · subst hn
      simp only [if_true, Option.some.injEq, Prod.mk.injEq] at h
      obtain ⟨rfl, rfl⟩ := h
      have hlen : (body ++ encodeFields ((n, wd) :: ws) vals).length
          = body.length + (wd + totalWidth ws) := by
        rw [List.length_append, encodeFields_length]
        rfl
      refine ⟨hlen ▸ Nat.le_add_left _ _, ?_⟩
      rw [hlen, Nat.add_sub_cancel, List.drop_left, encodeFields_cons,
        List.take_left' (beBytes_length _ _)]
      exact be64_beBytes _ _ (hfit (n, wd) List.mem_cons_self)
    · simp only [hn, if_false] at h
      have := ih (body ++ beBytes wd (vals n)) dist width h
        (fun w hw => hfit w (List.mem_cons_of_mem _ hw))
      rw [encodeFields_cons, ← List.append_assoc]
      exact this

/-- The reader table agrees with the writer table: every field read is
    located where (and as wide as) the writer wrote it. Checked by evaluation
    on the GENERATED tables. -/
theorem footerTables_agree :
    ∀ r ∈ Gen.Facts.footerReads, distOf (writeName r.1) Gen.Facts.footerWrites = some r.2 := by
  decide +kernel

theorem footerReads_lookup :
    ∀ r ∈ Gen.Facts.footerReads, lookup r.1 Gen.Facts.footerReads = some r.2 := by
  decide +kernel

theorem footer_roundtrip (vals : String → Nat) (body : Bytes) (name : String)
    (hname : name ∈ Gen.Facts.footerReads.map (·.1))
    (hfit : ∀ w ∈ Gen.Facts.footerWrites, vals w.1 < 256 ^ w.2) :
    decodeField (body ++ encodeFooter vals) name = some (vals (writeName name)) := by
  obtain ⟨⟨rn, rd, rw'⟩, hr, rfl⟩ := List.mem_map.mp hname
  obtain ⟨hle, hval⟩ := fields_roundtrip vals _ _ body rd rw' (footerTables_agree _ hr) hfit
  unfold decodeField encodeFooter
  rw [footerReads_lookup _ hr]
  simp only [hle, if_true, hval]

/-- The v16 footer as zap.md documents it. -/
def documentedFooter : List (String × Nat) :=
  [("numDocs", 8), ("storedIndexOffset", 8), ("fieldsIndexOffset", 8),
   ("sectionsIndexOffset", 8), ("docValueOffset", 8), ("chunkMode", 4), ("Version", 4), ("crc", 4)]

theorem footer_layout : Gen.Facts.footerWrites = documentedFooter := rfl

theorem footer_size : (Gen.Facts.footerWrites.map (·.2)).sum = Gen.FooterSize := rfl

theorem footer_length (vals : String → Nat) : (encodeFooter vals).length = Gen.FooterSize := by
  rw [encodeFooter, encodeFields_length, totalWidth, footer_size]

theorem footer_reads_cover_writes :
    Gen.Facts.footerWrites.all (fun w =>
      Gen.Facts.footerReads.any (fun r => writeName r.1 == w.1 && r.2.2 == w.2)) = true := by
  decide +kernel

def Footer.vals (f : Footer) : String → Nat
  | "numDocs" => f.numDocs
  | "storedIndexOffset" => f.storedIndexOffset
  | "fieldsIndexOffset" => f.fieldsIndexOffset
  | "sectionsIndexOffset" => f.sectionsIndexOffset
  | "docValueOffset" => f.docValueOffset
  | "chunkMode" => f.chunkMode
  | "Version" => f.version
  | "crc" => f.crc
  | _ => 0

/-- The eight values of a footer record by name: the one place where `Footer.vals` meets the
    field names as string literals (comparing them is what makes evaluation dear). -/
theorem vals_at (f : Footer) :
    Footer.vals f "numDocs" = f.numDocs ∧ Footer.vals f "storedIndexOffset" = f.storedIndexOffset ∧
    Footer.vals f "fieldsIndexOffset" = f.fieldsIndexOffset ∧
    Footer.vals f "sectionsIndexOffset" = f.sectionsIndexOffset ∧
    Footer.vals f "docValueOffset" = f.docValueOffset ∧ Footer.vals f "chunkMode" = f.chunkMode ∧
    Footer.vals f "Version" = f.version ∧ Footer.vals f "crc" = f.crc := by
  unfold Footer.vals
  simp

/-- Only the name "crc" reads the CRC field; the name stays a variable, so no two literals are
    compared. -/
theorem vals_crc_irrel (f : Footer) (c : Nat) (name : String) (h : name ≠ "crc") :
    Footer.vals { f with crc := c } name = Footer.vals f name := by
  unfold Footer.vals
  split
  case h_8 => exact absurd rfl h
  all_goals rfl

/-- A record whose fields fit their Go types (`uint64` / `uint32`) fits the write table. -/
theorem vals_fit (f : Footer) (h1 : f.numDocs < 2 ^ 64) (h2 : f.storedIndexOffset < 2 ^ 64)
    (h3 : f.fieldsIndexOffset < 2 ^ 64) (h4 : f.sectionsIndexOffset < 2 ^ 64)
    (h5 : f.docValueOffset < 2 ^ 64) (h6 : f.chunkMode < 2 ^ 32) (h7 : f.version < 2 ^ 32)
    (h8 : f.crc < 2 ^ 32) : ∀ w ∈ Gen.Facts.footerWrites, Footer.vals f w.1 < 256 ^ w.2 := by
  obtain ⟨e1, e2, e3, e4, e5, e6, e7, e8⟩ := vals_at f
  rw [footer_layout]
  simp only [documentedFooter, List.forall_mem_cons, e1, e2, e3, e4, e5, e6, e7, e8]
  exact ⟨h1, h2, h3, h4, h5, h6, h7, h8, fun _ h => nomatch h⟩

end Zap.Codec
