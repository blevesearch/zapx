/-
  Lemmas for ZapModel.Theory.Persist: every fault position and every closing instant.
-/
import ZapModel.Theory.Persist

namespace Zap.Theory.Persist
open Zap.Gen

def IsErr (nc : Bool) (o : Outcome) : Prop := o.err.isSome = true ∧ (nc = true → o.cleaned = true)

/-- The three ways one step of `go` can go under `wellChecked`'s clause for that step: the error
    ends the run; a failed write is swallowed and latched; no failure.  `hbad` is the invariant
    carried through `go_outcomes` and `go_fault`: while an error is latched a strict Flush is still
    ahead, so a latched run cannot end in success. -/
theorem go_cons_cases (nc : Bool) (fault closing : Option Nat) (i : Nat) (bad : Bool)
    (acc : List Nat) (op : Op) (rest : List Op)
    (hop : (strict nc op || (op.kind == .write && !propagates op.chain && hasCheckedFlush nc rest))
            = true)
    (hbad : bad = true → hasCheckedFlush nc (op :: rest) = true) :
    (fails fault closing i bad op = true ∧
      go fault closing i bad acc (op :: rest) = ⟨some (errKind fault i op), cleans op.chain, acc⟩ ∧
      (nc = true → cleans op.chain = true))
    ∨ (fails fault closing i bad op = true ∧ op.kind = .write ∧
      go fault closing i bad acc (op :: rest) = go fault closing (i + 1) true acc rest ∧
      hasCheckedFlush nc rest = true)
    ∨ (fails fault closing i bad op = false ∧
      go fault closing i bad acc (op :: rest)
        = go fault closing (i + 1) bad (if op.kind == .write then acc ++ [i] else acc) rest ∧
      (bad = true → hasCheckedFlush nc rest = true)) := by
  cases hf : fails fault closing i bad op with
  | true =>
    cases hp : propagates op.chain with
    | true =>
      refine Or.inl ⟨rfl, by simp [go, hf, hp], ?_⟩
      intro hnc
      simp only [strict, hp, Bool.true_and, Bool.not_true, Bool.false_and, Bool.and_false,
        Bool.or_false, hnc, Bool.false_or] at hop
      exact hop
    | false =>
      simp only [strict, hp, Bool.false_and, Bool.not_false, Bool.and_true, Bool.false_or,
        Bool.and_eq_true, beq_iff_eq] at hop
      refine Or.inr (Or.inl ⟨rfl, hop.1, ?_, hop.2⟩)
      simp [go, hf, hp, hop.1, latches]
  | false =>
    refine Or.inr (Or.inr ⟨rfl, by simp [go, hf], ?_⟩)
    intro hb
    have h : ((op.kind == .flush && strict nc op) || hasCheckedFlush nc rest) = true := hbad hb
    subst hb
    have hl : latches op.kind = false := by
      simp only [fails, Bool.true_and, Bool.or_eq_false_iff] at hf
      exact hf.1.2
    have hk : (op.kind == OpKind.flush) = false := by
      simp only [latches, Bool.or_eq_false_iff] at hl; exact hl.2
    rwa [hk, Bool.false_and, Bool.false_or] at h

theorem go_outcomes (nc : Bool) (fault closing : Option Nat) (ops : List Op) :
    ∀ (i : Nat) (bad : Bool) (acc : List Nat), wellChecked nc ops = true →
      (bad = true → hasCheckedFlush nc ops = true) →
      IsErr nc (go fault closing i bad acc ops)
      ∨ (bad = false ∧ go fault closing i bad acc ops = ⟨none, false, acc ++ writeIdx i ops⟩) := by
  induction ops with
  | nil =>
    intro i bad acc _ hbad
    cases bad with
    | true => simp [hasCheckedFlush] at hbad
    | false => exact Or.inr ⟨rfl, by simp [go, writeIdx]⟩
  | cons op rest ih =>
    intro i bad acc hwc hbad
    simp only [wellChecked, Bool.and_eq_true] at hwc
    rcases go_cons_cases nc fault closing i bad acc op rest hwc.1 hbad with
      ⟨_, hgo, hcl⟩ | ⟨_, _, hgo, hfl⟩ | ⟨_, hgo, hbad'⟩
    · left; rw [hgo]; exact ⟨rfl, hcl⟩
    · rw [hgo]
      rcases ih (i + 1) true acc hwc.2 (fun _ => hfl) with h | ⟨h, _⟩
      · exact Or.inl h
      · cases h
    · rw [hgo]
      rcases ih (i + 1) bad _ hwc.2 hbad' with h | ⟨hb, h⟩
      · exact Or.inl h
      · right
        refine ⟨hb, ?_⟩
        rw [h]
        cases hk : (op.kind == OpKind.write) <;> simp [writeIdx, hk]

theorem go_fault (nc : Bool) (closing : Option Nat) (ops : List Op) :
    ∀ (i p : Nat) (bad : Bool) (acc : List Nat), wellChecked nc ops = true →
      (bad = true → hasCheckedFlush nc ops = true) → p < ops.length →
      IsErr nc (go (some (i + p)) closing i bad acc ops) := by
  induction ops with
  | nil => intro i p bad acc _ _ hp; simp at hp
  | cons op rest ih =>
    intro i p bad acc hwc hbad hp
    simp only [wellChecked, Bool.and_eq_true] at hwc
    rcases go_cons_cases nc (some (i + p)) closing i bad acc op rest hwc.1 hbad with
      ⟨_, hgo, hcl⟩ | ⟨_, _, hgo, hfl⟩ | ⟨hnf, hgo, hbad'⟩
    · rw [hgo]; exact ⟨rfl, hcl⟩
    · rw [hgo]
      rcases go_outcomes nc (some (i + p)) closing rest (i + 1) true acc hwc.2 (fun _ => hfl) with
        h | ⟨h, _⟩
      · exact h
      · cases h
    · rw [hgo]
      cases p with
      | zero => simp [fails] at hnf
      | succ p' =>
        have : i + (p' + 1) = (i + 1) + p' := Nat.add_right_comm i p' 1
        rw [this]
        exact ih (i + 1) p' bad _ hwc.2 hbad' (Nat.lt_of_succ_lt_succ hp)

/-- Without a fault nothing is ever latched, so only a poll can fail, and its error is `closed`. -/
theorem go_err_closed (closing : Option Nat) (ops : List Op) :
    ∀ (i : Nat) (acc : List Nat) (e : Err),
      (go none closing i false acc ops).err = some e → e = .closed := by
  induction ops with
  | nil => intro i acc e h; cases h
  | cons op rest ih =>
    intro i acc e h
    have hf : fails none closing i false op = (op.kind == .poll && closedAt closing i) := by
      simp [fails]
    unfold go at h
    by_cases hfail : fails none closing i false op = true
    · rw [if_pos hfail] at h
      rw [hf, Bool.and_eq_true] at hfail
      split at h
      · have hk : errKind none i op = .closed := by simp [errKind, hfail.1]
        exact (Option.some.inj h).symm.trans hk
      · have hl : latches op.kind = false := by rw [beq_iff_eq.mp hfail.1]; rfl
        rw [hl] at h
        exact ih _ _ e h
    · rw [if_neg hfail] at h
      exact ih _ _ e h

theorem fails_closed (i : Nat) (op : Op) :
    fails none (some 0) i false op = (op.kind == .poll) := by
  simp [fails, closedAt]

theorem go_closed_at_start (nc : Bool) (ops : List Op) :
    ∀ (i : Nat) (acc : List Nat), wellChecked nc ops = true →
      ops.any (fun o => o.kind == .poll) = true →
      (go none (some 0) i false acc ops).err = some .closed
      ∧ (nc = true → (go none (some 0) i false acc ops).cleaned = true)
      ∧ (go none (some 0) i false acc ops).bytes
          = acc ++ writeIdx i (ops.takeWhile fun o => o.kind != .poll) := by
  induction ops with
  | nil => intro i acc _ h; simp at h
  | cons op rest ih =>
    intro i acc hwc hany
    simp only [wellChecked, Bool.and_eq_true] at hwc
    rcases go_cons_cases nc none (some 0) i false acc op rest hwc.1 (by simp) with
      ⟨hf, hgo, hcl⟩ | ⟨hf, hk, _, _⟩ | ⟨hnf, hgo, _⟩
    · rw [fails_closed] at hf
      rw [hgo]
      exact ⟨by simp [errKind, hf], hcl, by simp [bne, hf, writeIdx]⟩
    · rw [fails_closed, hk] at hf
      cases hf
    · rw [fails_closed] at hnf
      rw [hgo]
      obtain ⟨h1, h2, h3⟩ := ih (i + 1) _ hwc.2 (by rwa [List.any_cons, hnf, Bool.false_or] at hany)
      refine ⟨h1, h2, ?_⟩
      rw [h3]
      cases hk : (op.kind == OpKind.write) <;> simp [bne, hnf, writeIdx, hk]

/-- The theorem behind C17 (write faults) and C19 (engine faults). -/
theorem fault_any_position (nc : Bool) (ops : List Op) (p : Nat) (closing : Option Nat)
    (hwc : wellChecked nc ops = true) (hp : p < ops.length) :
    (run (some p) closing ops).err.isSome = true
    ∧ (nc = true → (run (some p) closing ops).cleaned = true) := by
  have := go_fault nc closing ops 0 p false [] hwc (by simp) hp
  rwa [Nat.zero_add] at this

theorem no_fault (ops : List Op) :
    run none none ops = ⟨none, false, writeIdx 0 ops⟩ := by
  have key : ∀ (ops : List Op) (i : Nat) (acc : List Nat),
      go none none i false acc ops = ⟨none, false, acc ++ writeIdx i ops⟩ := by
    intro ops
    induction ops with
    | nil => intro i acc; simp [go, writeIdx]
    | cons op rest ih =>
      intro i acc
      have hnf : fails none none i false op = false := by simp [fails, closedAt]
      simp only [go, hnf]
      rw [ih]
      cases hk : (op.kind == OpKind.write) <;> simp [writeIdx, hk]
  simpa [run] using key ops 0 []

theorem outcomes (nc : Bool) (ops : List Op) (fault closing : Option Nat)
    (hwc : wellChecked nc ops = true) :
    ((run fault closing ops).err.isSome = true
      ∧ (nc = true → (run fault closing ops).cleaned = true))
    ∨ run fault closing ops = ⟨none, false, writeIdx 0 ops⟩ := by
  rcases go_outcomes nc fault closing ops 0 false [] hwc (by simp) with h | ⟨_, h⟩
  · exact Or.inl h
  · exact Or.inr h

/-- The theorem behind C18 (cancellation). -/
theorem cancel_outcomes (nc : Bool) (ops : List Op) (closing : Option Nat)
    (hwc : wellChecked nc ops = true) :
    ((run none closing ops).err = some .closed
      ∧ (nc = true → (run none closing ops).cleaned = true))
    ∨ run none closing ops = ⟨none, false, writeIdx 0 ops⟩ := by
  rcases outcomes nc ops none closing hwc with ⟨he, hc⟩ | h
  · obtain ⟨e, he⟩ := Option.isSome_iff_exists.mp he
    exact Or.inl ⟨by rw [he, go_err_closed closing ops 0 [] e he], hc⟩
  · exact Or.inr h

theorem cancel_before_start (nc : Bool) (ops : List Op) (hwc : wellChecked nc ops = true)
    (hpoll : ops.any (fun o => o.kind == .poll) = true) :
    (run none (some 0) ops).err = some .closed
    ∧ (nc = true → (run none (some 0) ops).cleaned = true)
    ∧ (run none (some 0) ops).bytes = writeIdx 0 (ops.takeWhile fun o => o.kind != .poll) :=
  go_closed_at_start nc ops 0 [] hwc hpoll

/-! ### Building `wellChecked` runs from per-link conditions -/

theorem propagates_append_cleanup (chain : List ErrDisp) :
    propagates (chain ++ [.cleanupReturned]) = propagates chain := by
  simp [propagates, passes]

theorem cleans_append_cleanup (chain : List ErrDisp) :
    cleans (chain ++ [.cleanupReturned]) = true := by
  simp [cleans]

theorem wellChecked_of_all_strict (nc : Bool) (ops : List Op)
    (h : ops.all (strict nc) = true) : wellChecked nc ops = true := by
  induction ops with
  | nil => rfl
  | cons op rest ih =>
    simp only [List.all_cons, Bool.and_eq_true] at h
    simp [wellChecked, h.1, ih h.2]

theorem strict_cons (nc : Bool) (k : OpKind) (d : ErrDisp) (up : List ErrDisp)
    (hd : passes d = true) (hup : propagates up = true) (hcl : nc = true → cleans up = true) :
    strict nc ⟨k, d :: up⟩ = true := by
  have hp : propagates (d :: up) = true := by
    simp only [propagates, List.all_cons, Bool.and_eq_true] at hup ⊢
    exact ⟨hd, hup⟩
  cases nc with
  | false => simp [strict, hp]
  | true =>
    cases up with
    | nil => exact absurd (hcl rfl) (by decide)
    | cons b l =>
      have hc : cleans (d :: b :: l) = true := by
        simpa only [cleans, List.getLast?_cons_cons] using hcl rfl
      simp [strict, hp, hc]

theorem hasCheckedFlush_append_right (nc : Bool) (a b : List Op)
    (h : hasCheckedFlush nc b = true) : hasCheckedFlush nc (a ++ b) = true := by
  simp only [hasCheckedFlush, List.any_append, Bool.or_eq_true] at h ⊢
  exact Or.inr h

theorem wellChecked_mkRun (body tail : List Op)
    (hb : ∀ op ∈ body, innerOK op = true)
    (ht : tail.all (strict true) = true)
    (hf : hasCheckedFlush true tail = true) :
    wellChecked true (mkRun .cleanupReturned body tail) = true := by
  induction body with
  | nil => simpa [mkRun] using wellChecked_of_all_strict true tail ht
  | cons op rest ih =>
    have ihr := ih (fun o ho => hb o (List.mem_cons_of_mem _ ho))
    have hop := hb op List.mem_cons_self
    simp only [mkRun, List.map_cons, List.cons_append, wellChecked, Bool.and_eq_true] at ihr ⊢
    refine ⟨?_, ihr⟩
    simp only [strict, propagates_append_cleanup, cleans_append_cleanup]
    cases hp : propagates op.chain with
    | true => simp
    | false =>
      have hflush : hasCheckedFlush true
          (List.map (fun op => { op with chain := op.chain ++ [ErrDisp.cleanupReturned] }) rest ++ tail)
          = true := hasCheckedFlush_append_right true _ tail hf
      have hk : op.kind = .write := by
        simp only [propagates, List.all_eq_false] at hp
        obtain ⟨d, hd, hnp⟩ := hp
        simp only [innerOK, List.all_eq_true] at hop
        have := hop d hd
        simp only [Bool.not_eq_true] at hnp
        simp only [hnp, Bool.false_or, Bool.and_eq_true, beq_iff_eq] at this
        exact this.2
      simp [hk, hflush]

end Zap.Theory.Persist
