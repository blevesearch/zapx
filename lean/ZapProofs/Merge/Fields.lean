/-
  ZapProofs.Merge.Fields: the result of `mergeSegs`, part by part.  The merged field table
  (`mergedFieldNames_props`); the segment `mergeSegs` returns, with each `let` of the model under a
  name (`mergeSegs_eq`); the field record the reader finds under a name (`mergeSegs_field?`); the
  stored documents by new number (`mergedStored_get`).
-/
import ZapProofs.Merge.Renumber
import ZapProofs.Merge.Enumerate
import ZapProofs.Build.Table

namespace Zap.MergeL

theorem mergedFieldNames_props (segs : List Seg) :
    (mergedFieldNames segs).head? = some idName ∧
    SortedLt (mergedFieldNames segs).tail ∧
    (∀ n, n ∈ mergedFieldNames segs ↔ n = idName ∨ ∃ s ∈ segs, n ∈ s.fieldNames) ∧
    idName ∉ (mergedFieldNames segs).tail := by
  unfold mergedFieldNames
  obtain ⟨_, hnd, hmem⟩ := foldl_getOrDefine_spec (segs.flatMap (·.fieldNames)) []
  refine ⟨rfl, sortedLt_sortNames ((hnd List.nodup_nil).filter _), ?_, ?_⟩
  · intro n
    simp only [List.mem_cons, mem_sortNames, List.mem_filter, hmem, List.mem_flatMap,
      List.not_mem_nil, false_or, decide_eq_true_eq]
    by_cases h : n = idName <;> simp [h]
  · simp only [List.tail_cons, mem_sortNames, List.mem_filter, decide_eq_true_eq]
    intro h; exact h.2 rfl

theorem field?_none_of_not_merged {segs : List Seg} {nm : Name} (h : nm ∉ mergedFieldNames segs)
    {s : Seg} (hs : s ∈ segs) : s.field? nm = none := by
  unfold Seg.field?
  rw [List.find?_eq_none]
  intro f hf hname
  refine h (((mergedFieldNames_props segs).2.2.1 nm).2 (Or.inr ⟨s, hs, ?_⟩))
  exact List.mem_map.2 ⟨f, hf, by simpa using hname⟩

/-! ## The `let`s of `mergeSegs` under names (the same terms: `mergeSegs_eq` is `if_neg`) -/

/-- Field-id translation of a stored document (`fieldsMap[name]-1`). -/
def trDoc (names : List Name) (s : Seg) (sd : StoredDoc) : StoredDoc :=
  { sd with vals := sd.vals.map (fun v => { v with fid := fieldIdOf names (s.nameOf v.fid) }) }

def mergedStored (names : List Name) (segs : List Seg) (maps : List (List (Option Nat))) : List StoredDoc :=
  (segs.zip maps).flatMap (fun p =>
    ((p.1.stored.zipIdx).filterMap (fun sd =>
      match p.2.getD sd.2 none with
      | none => none
      | some _ => some (trDoc names p.1 sd.1))))

/-- `segmentsInFocus` of `mergeAndPersistInvertedSection`, each input with its map. -/
def focusOf (nm : Name) (segs : List Seg) (maps : List (List (Option Nat))) :
    List (Seg × List (Option Nat)) :=
  (segs.zip maps).filter (fun p => !(p.1.dictTerms nm).isEmpty)

def itsOf (nm : Name) (focus : List (Seg × List (Option Nat))) : List Iter :=
  focus.map (fun p => (p.1.dictTerms nm).map (fun t => (t.1, 0)))

def partsOf (nm : Name) (k : Bytes) (focus : List (Seg × List (Option Nat))) :
    List (List Name × List (Option Nat) × PostRep) :=
  focus.filterMap (fun p => (lookup k (p.1.dictTerms nm)).map (fun r => (p.1.fields.map (·.name), p.2, r)))

/-- The `dvParts` of `mergeSegs`. -/
def dvPartsOf (nm : Name) (zs : List (Seg × List (Option Nat))) : List (List (Nat × List Bytes)) :=
  zs.filterMap (fun p => match p.1.field? nm with
    | none => none
    | some f => f.dv.map (fun dv => dvMerge p.2 dv))

def mergedDv (nm : Name) (zs : List (Seg × List (Option Nat))) : Option (List (Nat × List Bytes)) :=
  if (dvPartsOf nm zs).isEmpty then none else some ((dvPartsOf nm zs).flatMap id)

def mergedField (vectors : Bool) (segs : List Seg) (maps : List (List (Option Nat))) (nm : Name) : FieldM :=
  let focus := focusOf nm segs maps
  let thesParts := (segs.zip maps).filterMap (fun p => (p.1.thes? nm).map (fun t => (p.2, t)))
  let vecParts := (segs.zip maps).filterMap (fun p => match p.1.field? nm with
    | none => none
    | some f => f.vec.map (fun v => (p.2, v)))
  { name := nm,
    terms := (mergedKeys (fun p : Seg × List (Option Nat) => p.1.dictTerms nm) focus).filterMap (fun k =>
      (chooseRep (mergeTermParts (fieldsSameAsCoded segs) (mergedFieldNames segs)
        (partsOf nm k focus))).map (fun r => (k, r))),
    dv := mergedDv nm (segs.zip maps),
    thes := mergeThes thesParts,
    vec := if vectors then mergeVec vecParts else none }

theorem mergeSegs_zero (v : Bool) (m : Nat) (segs : List Seg) (drops : List (Option (List Nat)))
    (h : newDocCount segs drops = 0) :
    mergeSegs v m segs drops =
      ({ chunkMode := m, numDocs := 0,
         fields := ((mergedFieldNames segs).take 1).map (fun nm => { name := nm }), stored := [] },
       remapAll segs drops 0) := by
  unfold mergeSegs
  exact if_pos h

theorem mergeSegs_eq (v : Bool) (m : Nat) (segs : List Seg) (drops : List (Option (List Nat)))
    (h : newDocCount segs drops ≠ 0) :
    mergeSegs v m segs drops =
      ({ chunkMode := m, numDocs := newDocCount segs drops,
         fields := (mergedFieldNames segs).map (mergedField v segs (remapAll segs drops 0)),
         stored := mergedStored (mergedFieldNames segs) segs (remapAll segs drops 0) },
       remapAll segs drops 0) := by
  unfold mergeSegs
  exact if_neg h

theorem mergeSegs_numDocs (v : Bool) (m : Nat) (segs : List Seg) (drops : List (Option (List Nat))) :
    (mergeSegs v m segs drops).1.numDocs = newDocCount segs drops := by
  by_cases h : newDocCount segs drops = 0
  · rw [mergeSegs_zero v m segs drops h, h]
  · rw [mergeSegs_eq v m segs drops h]

theorem mergeSegs_field? (v : Bool) (m : Nat) (segs : List Seg) (drops : List (Option (List Nat)))
    (h : newDocCount segs drops ≠ 0) (nm : Name) :
    (mergeSegs v m segs drops).1.field? nm =
      if nm ∈ mergedFieldNames segs then some (mergedField v segs (remapAll segs drops 0) nm) else none := by
  rw [mergeSegs_eq v m segs drops h]
  unfold Seg.field? Seg.loadedFields
  rw [if_neg h]
  exact List.find?_map_key (key := fun f : FieldM => f.name) (fun _ => rfl) nm _

/-! ## Stored documents of the merge

The stored list of the merge result carries no numbers: a document's new number is its position.
`numberedStored` is the same list with the numbers the maps hand out written beside the documents;
they run `0, 1, ...` (`numberedStored_fst`), so each document sits at the position of its number. -/

theorem getElem?_of_map_eq_range' {α : Type} {key : α → Nat} {l : List α} {s n : Nat}
    (h : l.map key = List.range' s n) {x : α} (hx : x ∈ l) : l[key x - s]? = some x := by
  obtain ⟨j, hj, rfl⟩ := List.getElem_of_mem hx
  have : (l.map key)[j]'(by rw [List.length_map]; exact hj) = s + j := by
    simp only [h, List.getElem_range', Nat.one_mul]
  rw [List.getElem_map] at this
  rw [this, Nat.add_sub_cancel_left, List.getElem?_eq_getElem hj]

theorem filterMap_zipIdx_snd {α β : Type} (f : Nat → Option β) (l : List α) :
    l.zipIdx.filterMap (fun p => f p.2) = (List.range l.length).filterMap f := by
  rw [List.range_eq_range', ← List.zipIdx_map_snd, List.filterMap_map]
  rfl

def numberedStored (names : List Name) (segs : List Seg) (maps : List (List (Option Nat))) :
    List (Nat × StoredDoc) :=
  (segs.zip maps).flatMap (fun p => (p.1.stored.zipIdx).filterMap (fun sd =>
    (p.2.getD sd.2 none).map (fun k => (k, trDoc names p.1 sd.1))))

theorem numberedStored_snd (names : List Name) (segs : List Seg) (maps : List (List (Option Nat))) :
    (numberedStored names segs maps).map (·.2) = mergedStored names segs maps := by
  unfold numberedStored mergedStored
  rw [List.map_flatMap]
  apply List.flatMap_congr_mem
  intro p _
  rw [List.map_filterMap]
  apply List.filterMap_congr_mem
  intro sd _
  cases p.2.getD sd.2 none <;> rfl

theorem numberedStored_fst (names : List Name) (segs : List Seg) (drops : List (Option (List Nat)))
    (start : Nat) (hlen : ∀ s ∈ segs, s.stored.length = s.numDocs) :
    (numberedStored names segs (remapAll segs drops start)).map (·.1) =
      List.range' start (offset (segs.map (·.numDocs)) drops segs.length) := by
  induction segs generalizing drops start with
  | nil => rfl
  | cons s ss ih =>
    have ih' := ih drops.tail (start + surv s.numDocs (drops.headD none))
      fun s hs => hlen s (List.mem_cons_of_mem _ hs)
    unfold numberedStored at ih' ⊢
    rw [remapAll_cons, List.zip_cons_cons, List.flatMap_cons, List.map_append, ih', List.map_filterMap,
      List.length_cons, List.map_cons, offset_cons, ← List.range'_append_1]
    congr 1
    -- the head block: of the documents `0 .. numDocs-1`, those that are kept
    rw [← filterMap_remapFn_range, ← hlen s List.mem_cons_self, ← filterMap_zipIdx_snd _ s.stored]
    apply List.filterMap_congr_mem
    intro sd hsd
    dsimp only at hsd ⊢
    rw [List.getD_map_range (n := s.stored.length) _ _ (List.snd_lt_of_mem_zipIdx hsd)]
    cases remapFn (drops.headD none) start sd.2 <;> rfl

theorem mergedStored_get (names : List Name) (segs : List Seg) (drops : List (Option (List Nat)))
    (hlen : ∀ s ∈ segs, s.stored.length = s.numDocs)
    (i d k : Nat) (hi : i < segs.length) (hd : d < segs[i].stored.length)
    (hk : ((remapAll segs drops 0).getD i []).getD d none = some k) :
    (mergedStored names segs (remapAll segs drops 0))[k]? = some (trDoc names segs[i] segs[i].stored[d]) := by
  have hmem : (k, trDoc names segs[i] segs[i].stored[d]) ∈ numberedStored names segs (remapAll segs drops 0) :=
    List.mem_flatMap.2 ⟨_, mem_zip_remapAll.2 ⟨i, hi, rfl⟩, List.mem_filterMap.2
      ⟨(segs[i].stored[d], d), List.mem_zipIdx_iff_getElem?.2 (List.getElem?_eq_getElem hd), by rw [hk]; rfl⟩⟩
  have := getElem?_of_map_eq_range' (numberedStored_fst names segs drops 0 hlen) hmem
  rw [← numberedStored_snd, List.getElem?_map, ← Nat.sub_zero k, this]
  rfl

end Zap.MergeL
