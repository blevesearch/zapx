/-
  ZapProofs.Base.Basic: the shared vocabulary of `ZapModel.Basic` (`Bytes.lt`, `SortedLt`, `AscNat`,
  `insertSorted`, `sortDedup`, `lookup`, `sumList`) tied once to core's order on lists,
  `List.Pairwise`, `List.find?` and `List.sum`, so that proofs use core's lemmas about those.
-/
import ZapModel.Basic
import ZapProofs.Base.List

namespace Zap

/-! ### `Bytes.lt` is core's lexicographic `<` on `List Nat` -/

theorem Bytes.lt_iff : ∀ {a b : Bytes}, Bytes.lt a b = true ↔ a < b
  | [], [] => by simp [Bytes.lt]
  | [], _ :: _ => by simp [Bytes.lt]
  | _ :: _, [] => by simp [Bytes.lt]
  | x :: xs, y :: ys => by
    rw [Bytes.lt, List.cons_lt_cons_iff, ← Bytes.lt_iff (a := xs) (b := ys)]
    by_cases h : x < y
    · simp [h]
    · by_cases h' : y < x
      · simp [h', Nat.ne_of_gt h']
      · simp [Nat.le_antisymm (Nat.le_of_not_lt h') (Nat.le_of_not_lt h)]

theorem Bytes.lt_eq_false_iff {a b : Bytes} : Bytes.lt a b = false ↔ b ≤ a := by
  rw [← Bool.not_eq_true, Bytes.lt_iff]; exact List.not_lt

theorem Bytes.le_iff {a b : Bytes} : Bytes.le a b = true ↔ a ≤ b := by
  simp [Bytes.le, Bytes.lt_eq_false_iff]

theorem Bytes.lt_irrefl (a : Bytes) : Bytes.lt a a = false :=
  Bytes.lt_eq_false_iff.mpr (List.le_refl a)

theorem Bytes.lt_trans {a b c : Bytes} (h₁ : Bytes.lt a b = true) (h₂ : Bytes.lt b c = true) :
    Bytes.lt a c = true :=
  Bytes.lt_iff.mpr (List.lt_trans (Bytes.lt_iff.mp h₁) (Bytes.lt_iff.mp h₂))

theorem Bytes.lt_asymm {a b : Bytes} (h : Bytes.lt a b = true) : Bytes.lt b a = false :=
  Bytes.lt_eq_false_iff.mpr (List.le_of_lt (Bytes.lt_iff.mp h))

theorem Bytes.ne_of_lt {a b : Bytes} (h : Bytes.lt a b = true) : a ≠ b := by
  rintro rfl; simp [Bytes.lt_irrefl] at h

theorem Bytes.eq_of_not_lt {a b : Bytes} (h₁ : Bytes.lt a b = false) (h₂ : Bytes.lt b a = false) :
    a = b :=
  List.le_antisymm (Bytes.lt_eq_false_iff.mp h₂) (Bytes.lt_eq_false_iff.mp h₁)

theorem Bytes.lt_trichotomy (a b : Bytes) : Bytes.lt a b = true ∨ a = b ∨ Bytes.lt b a = true := by
  cases h₁ : Bytes.lt a b
  · cases h₂ : Bytes.lt b a
    · exact .inr (.inl (Bytes.eq_of_not_lt h₁ h₂))
    · exact .inr (.inr rfl)
  · exact .inl rfl

abbrev BLt (a b : Bytes) : Prop := Bytes.lt a b = true

theorem strictTotal_blt : StrictTotal BLt :=
  ⟨fun a h => by simp [BLt, Bytes.lt_irrefl] at h, Bytes.lt_trans, Bytes.lt_trichotomy⟩

/-! ### the model's chain predicates are `List.Pairwise` -/

theorem sortedLt_iff_pairwise : ∀ {l : List Bytes}, SortedLt l ↔ l.Pairwise BLt
  | [] => by simp [SortedLt]
  | [_] => by simp [SortedLt]
  | a :: b :: l => by
    rw [SortedLt, List.pairwise_cons_cons_of_trans (R := BLt) Bytes.lt_trans, sortedLt_iff_pairwise]

theorem ascNat_iff_pairwise : ∀ {l : List Nat}, AscNat l ↔ l.Pairwise (· < ·)
  | [] => by simp [AscNat]
  | [_] => by simp [AscNat]
  | a :: b :: l => by
    rw [AscNat, List.pairwise_cons_cons_of_trans (R := (· < ·)) Nat.lt_trans, ascNat_iff_pairwise]

theorem SortedLt.nodup {l : List Bytes} (h : SortedLt l) : l.Nodup :=
  List.nodup_iff_pairwise_ne.mpr
    ((sortedLt_iff_pairwise.mp h).imp fun hab => Bytes.ne_of_lt hab)

theorem SortedLt.ext {a b : List Bytes} (ha : SortedLt a) (hb : SortedLt b)
    (h : ∀ x, x ∈ a ↔ x ∈ b) : a = b :=
  (sortedLt_iff_pairwise.mp ha).eq_of_mem_iff (fun _ _ h₁ h₂ => strictTotal_blt.asymm h₁ h₂)
    (sortedLt_iff_pairwise.mp hb) h

theorem SortedLt.map_filter {α : Type} {f : α → Bytes} {l : List α} (h : SortedLt (l.map f))
    (q : α → Bool) : SortedLt ((l.filter q).map f) :=
  sortedLt_iff_pairwise.mpr ((sortedLt_iff_pairwise.mp h).sublist (List.filter_sublist.map f))

/-! ### `insertSorted` is `insertUniq BLt`, `sortDedup` its `foldr` -/

theorem insertSorted_eq_insertUniq (x : Bytes) (l : List Bytes) :
    insertSorted x l = insertUniq BLt x l := by
  induction l with
  | nil => rfl
  | cons y ys ih => simp only [insertSorted, insertUniq, ih]

theorem sortDedup_eq (xs : List Bytes) : sortDedup xs = xs.foldr (insertUniq BLt) [] := by
  unfold sortDedup; congr; funext x l; exact insertSorted_eq_insertUniq x l

theorem mem_insertSorted {x z : Bytes} {l : List Bytes} : z ∈ insertSorted x l ↔ z = x ∨ z ∈ l := by
  rw [insertSorted_eq_insertUniq, mem_insertUniq]

theorem mem_sortDedup {z : Bytes} {xs : List Bytes} : z ∈ sortDedup xs ↔ z ∈ xs := by
  rw [sortDedup_eq, mem_foldr_insertUniq]

theorem sortedLt_insertSorted (x : Bytes) {l : List Bytes} (h : SortedLt l) :
    SortedLt (insertSorted x l) := by
  rw [sortedLt_iff_pairwise, insertSorted_eq_insertUniq]
  exact pairwise_insertUniq strictTotal_blt x (sortedLt_iff_pairwise.mp h)

theorem sortedLt_sortDedup (xs : List Bytes) : SortedLt (sortDedup xs) := by
  rw [sortedLt_iff_pairwise, sortDedup_eq]
  exact pairwise_foldr_insertUniq strictTotal_blt xs

/-! ### `lookup` is `find?` on the key, then the value -/

section lookup
variable {α β γ : Type} [DecidableEq α]

@[simp] theorem lookup_nil (k : α) : lookup k ([] : List (α × β)) = none := rfl

theorem lookup_cons (k : α) (p : α × β) (l : List (α × β)) :
    lookup k (p :: l) = if k = p.1 then some p.2 else lookup k l := rfl

theorem lookup_eq_find? (k : α) (l : List (α × β)) :
    lookup k l = (l.find? (fun p => p.1 = k)).map (·.2) := by
  induction l with
  | nil => rfl
  | cons p l ih =>
    rw [lookup_cons, List.find?_cons, ih]
    by_cases h : k = p.1
    · simp [h]
    · simp [h, Ne.symm h]

theorem lookup_append (k : α) (d e : List (α × β)) :
    lookup k (d ++ e) = (lookup k d).or (lookup k e) := by
  simp only [lookup_eq_find?, List.find?_append]
  cases List.find? (fun p => p.1 = k) d <;> rfl

theorem lookup_concat_eq_some {t k : α} {v w : β} {d : List (α × β)} :
    lookup t (d ++ [(k, v)]) = some w ↔
      lookup t d = some w ∨ (lookup t d = none ∧ t = k ∧ v = w) := by
  rw [lookup_append]
  cases lookup t d with
  | some u => simp
  | none => by_cases e : t = k <;> simp [lookup_cons, e]

theorem lookup_eq_none_iff {k : α} {l : List (α × β)} : lookup k l = none ↔ k ∉ l.map (·.1) := by
  induction l with
  | nil => simp
  | cons p l ih =>
    rw [lookup_cons, List.map_cons, List.mem_cons, not_or, ← ih]
    by_cases h : k = p.1 <;> simp [h]

theorem lookup_isSome_iff {k : α} {l : List (α × β)} :
    (lookup k l).isSome = true ↔ k ∈ l.map (·.1) := by
  rw [Option.isSome_iff_ne_none, Ne, lookup_eq_none_iff, Classical.not_not]

theorem mem_of_lookup_eq_some {k : α} {v : β} {l : List (α × β)} (h : lookup k l = some v) :
    (k, v) ∈ l := by
  rw [lookup_eq_find?, Option.map_eq_some_iff] at h
  obtain ⟨p, hp, rfl⟩ := h
  have := List.find?_some hp
  simp only [decide_eq_true_eq] at this
  exact this ▸ List.mem_of_find?_eq_some hp

theorem lookup_eq_some_of_mem {k : α} {v : β} {l : List (α × β)} (nd : (l.map (·.1)).Nodup)
    (h : (k, v) ∈ l) : lookup k l = some v := by
  rw [lookup_eq_find?, List.find?_key_eq_some (key := (·.1)) nd h, Option.map_some]

theorem lookup_eq_some_iff {k : α} {v : β} {l : List (α × β)} (nd : (l.map (·.1)).Nodup) :
    lookup k l = some v ↔ (k, v) ∈ l :=
  ⟨mem_of_lookup_eq_some, lookup_eq_some_of_mem nd⟩

theorem lookup_map_val (g : α → β → γ) (k : α) (l : List (α × β)) :
    lookup k (l.map fun p => (p.1, g p.1 p.2)) = (lookup k l).map (g k) := by
  induction l with
  | nil => rfl
  | cons p l ih =>
    simp only [List.map_cons, lookup_cons, ih]
    by_cases h : k = p.1 <;> simp [h]

theorem lookup_filter (q : α × β → Bool) (k : α) {l : List (α × β)} (nd : (l.map (·.1)).Nodup) :
    lookup k (l.filter q) = (lookup k l).bind fun v => if q (k, v) then some v else none := by
  induction l with
  | nil => rfl
  | cons p l ih =>
    rw [List.map_cons, List.nodup_cons] at nd
    rw [List.filter_cons, lookup_cons]
    by_cases hk : k = p.1
    · subst hk
      have hn : lookup p.1 (l.filter q) = none :=
        lookup_eq_none_iff.mpr fun h => nd.1 ((List.filter_sublist.map _).subset h)
      by_cases hq : q p <;> simp [hq, hn, lookup_cons]
    · by_cases hq : q p <;> simp [hq, hk, lookup_cons, ih nd.2]

/-- No `Nodup` of `ks` is needed: the first hit decides. -/
theorem lookup_filterMap_keys (g : α → Option β) (k : α) (ks : List α) :
    lookup k (ks.filterMap fun k' => (g k').map fun v => (k', v)) = if k ∈ ks then g k else none := by
  induction ks with
  | nil => rfl
  | cons a ks ih =>
    rw [List.filterMap_cons]
    by_cases h : k = a
    · subst h
      cases hg : g k with
      | none => simp [ih, hg]
      | some v => simp [lookup_cons]
    · cases hg : g a with
      | none => simp [ih, h]
      | some v => simp [lookup_cons, ih, h]

theorem lookup_map_keys (g : α → β) (k : α) (ks : List α) :
    lookup k (ks.map fun k' => (k', g k')) = if k ∈ ks then some (g k) else none := by
  simpa using lookup_filterMap_keys (fun k' => some (g k')) k ks

/-- A look-up through a renumbering of the keys that is injective where it is defined. -/
theorem lookup_filterMap_key {κ : Type} [DecidableEq κ] (f : α → Option κ)
    (hinj : ∀ a b k, f a = some k → f b = some k → a = b) {a : α} {k : κ} (h : f a = some k)
    (l : List (α × β)) :
    lookup k (l.filterMap fun p => (f p.1).map fun k' => (k', p.2)) = lookup a l := by
  induction l with
  | nil => rfl
  | cons p l ih =>
    rw [List.filterMap_cons, lookup_cons]
    cases hp : f p.1 with
    | none =>
      have : a ≠ p.1 := fun e => by rw [e, hp] at h; cases h
      rw [Option.map_none, if_neg this]
      exact ih
    | some k' =>
      rw [Option.map_some, lookup_cons]
      by_cases e : a = p.1
      · rw [if_pos e, if_pos (Option.some.inj ((e ▸ h).symm.trans hp))]
      · rw [if_neg e, if_neg fun e' : k = k' => e (hinj _ _ _ h (e' ▸ hp)), ih]

theorem lookup_insertAfter (t : Bytes) (x : Bytes × β) (l : List (Bytes × β)) :
    lookup t (insertAfter (fun y x => Bytes.lt y.1 x.1) x l) =
      if t = x.1 then some x.2 else lookup t l := by
  induction l with
  | nil => rfl
  | cons y ys ih =>
    unfold insertAfter
    split
    · next hyx =>
      -- `y` stays in front; being below `x`, it cannot have `x`'s key
      rw [lookup_cons, lookup_cons, ih]
      by_cases h : t = x.1
      · subst h
        simp [(Bytes.ne_of_lt hyx).symm]
      · simp [h]
    · rfl

theorem lookup_foldr_insertAfter (t : Bytes) (d : List (Bytes × β)) :
    lookup t (d.foldr (insertAfter fun y x => Bytes.lt y.1 x.1) []) = lookup t d := by
  induction d with
  | nil => rfl
  | cons z zs ih => rw [List.foldr_cons, lookup_insertAfter, ih, lookup_cons]

/-- The shape of `appendEntry` and `addCodes`: on an association list, a new entry holds the update
    of a default value. -/
theorem lookup_upsert {κ β : Type} [DecidableEq κ] (G : β → β) (v0 : β) (k t : κ) (d : List (κ × β)) :
    lookup t (upsert Prod.fst k (fun p => (p.1, G p.2)) (k, G v0) d) =
      if k = t then some (G ((lookup t d).getD v0)) else lookup t d := by
  rw [lookup_eq_find?, lookup_eq_find?, find?_upsert]
  · rw [apply_ite (Option.map _)]
    cases d.find? (fun p => decide (p.1 = t)) <;> rfl
  · exact fun _ => rfl
  · rfl

end lookup

/-! ### `sumList` is `List.sum` -/

theorem sumList_eq_sum (l : List Nat) : sumList l = l.sum := by
  induction l with
  | nil => rfl
  | cons x l ih => simp [sumList, ih]

theorem sumList_take_succ (l : List Nat) (c : Nat) (h : c < l.length) :
    sumList (l.take (c + 1)) = sumList (l.take c) + l[c] := by
  rw [List.take_succ_eq_append_getElem h, sumList_eq_sum, List.sum_append, ← sumList_eq_sum]
  simp

theorem sumList_take_le (l : List Nat) (k : Nat) : sumList (l.take k) ≤ sumList l := by
  rw [sumList_eq_sum, sumList_eq_sum]
  exact List.sum_le_of_sublist (List.take_sublist k l)

theorem sumList_take_mono (l : List Nat) (a b : Nat) (h : a ≤ b) :
    sumList (l.take a) ≤ sumList (l.take b) := by
  rw [← Nat.min_eq_left h, ← List.take_take]
  exact sumList_take_le _ _

theorem sumList_take_skip (l : List Nat) (a b : Nat) (hab : a ≤ b) (hb : b ≤ l.length)
    (hz : ∀ k (h : k < l.length), a ≤ k → k < b → l[k] = 0) :
    sumList (l.take b) = sumList (l.take a) := by
  induction hab with
  | refl => rfl
  | @step b hab ih =>
    rw [sumList_take_succ l b hb, hz b hb hab (Nat.lt_succ_self b)]
    exact ih (Nat.le_of_lt hb) fun k h h1 h2 => hz k h h1 (Nat.lt_succ_of_lt h2)

theorem sumList_map_length_flatten (segs : List Bytes) :
    sumList (segs.map List.length) = segs.flatten.length := by
  rw [sumList_eq_sum, List.length_flatten]

end Zap
