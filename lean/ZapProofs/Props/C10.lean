/-
  C10 (a build depends only on its batch): the clauses that are properties of HOW the reusable
  builder is reset and pooled, instantiated on facts extracted from /repo on every run.
  (That a reused container builds what a fresh one builds is proved where a container is modelled:
  `C01_arrays_refine_reused`, Props/C01Arrays.lean - `FreqNorms` / `Locs` and their backing arrays;
  `intcoder_reuse`, Props/Codec.lean - the int coder.)

  The theorems about slices as backing array + length are in ZapProofs/Theory/Reset.lean:
  `read_after_zeroing` (after a zeroing reset every later re-slice reads zero values),
  `stale_after_truncate` / `stale_after_notReset` (after `truncate`, or no reset, it reads the
  previous build's content), and the two uses under which `truncate` is harmless,
  `visible_after_truncate_appends` (append only; also why `bufferReset` - `bytes.Buffer.Reset`,
  whose API only appends and only exposes what was written - leaves nothing stale) and
  `read_after_truncate_overwrite` (every index assigned before it is read).  The pool clause is
  `C11.C11_pool "interimPool"`.

  CHECKED AGAINST THE SOURCE ON EVERY RUN (on `Gen.Facts.resetFacts` / `structFields`)
  * completeness: exactly one reset fact per declared field of the six reusable structs, in
    declaration order; the six structs are present with the expected number of fields > 0;
    no UNRECOGNISED entry;
  * `ResetSafe`: every field has a kind that leaves nothing stale, except `truncate` fields on
    `allowTruncate` and `notReset` fields on `allowNotReset` (each entry justified below by
    where the Go code appends / overwrites / re-derives it);
  * the fields that ARE re-sliced within capacity and then read without being assigned first
    have a zeroing kind (`mustZero`);
  * the builder pool: `newWithChunkMode` has exactly the two paths `get use ret` (failure: the
    builder is dropped, never returned) and `get use put ret`, and `s.convert`'s error is
    returned.

  MODELLED, NOT VERIFIED
  * The extractor's kind says what the Reset loop does over `len`, not over capacity
    (tools/README.md item 5).  `read_after_zeroing` closes that gap with the invariant `TailZero`
    (everything beyond `len` is zero), which make / write / append / grow preserve; it is broken
    only by shrinking a dirty slice without zeroing - i.e. by a `truncate`d field that is later
    grown and read, which is exactly what the allow-list has to exclude BY READING.
  * The allow-list justifications are by reading the Go code (cited per entry); the model of
    the builder (ZapModel/Build.lean) and the differential run (Gen C10: sequences of builds in one
    process, with a hook, `interimpeek`, reporting that the pooled builder was in fact reused) test
    them.
  * Data races on the builder are excluded by the pool clause at the granularity of extracted
    events; the Go memory model is outside.
-/
import ZapModel.Gen.Facts
import ZapModel.Theory.Str
import ZapProofs.Theory.Reset
import ZapProofs.Props.C11

namespace Zap.C10
open Zap.Gen Zap.Gen.ResetKind Zap.Theory Zap.Theory.Reset

/-- `truncate` is safe ONLY for these fields.  Justification (Go file : what happens before any
    read):

    interim (new.go)
    * `FieldsInv`  - `getOrDefineField` appends from length 0; never re-sliced.
    * `tmp0`,`tmp1` - `writeStoredFields` takes `s.tmp0[:0]`, `s.tmp1[:0]` and only appends
                     (`data = append(..)`, snappy.Encode into `compressed[:cap]` returning the
                     written prefix).
    invertedIndexOpaque (section_inverted_text_index.go)
    * `FreqNorms`, `Locs` - `realloc` re-slices to `numPostingsLists` and then assigns EVERY
                     index: `for pid := range numTermsPerPostingsList { FreqNorms[pid] =
                     freqNormsBacking[0:0] }` (one entry per postings list, appended together
                     with `pidNext++`); the per-list slices start at length 0 inside the zeroed
                     backing arrays and are only appended to.
    * `numTermsPerPostingsList`, `numLocsPerPostingsList` - `append(.., 0)` from length 0, then
                     `+=` at the index just appended.
    * `reusableFieldLens`, `reusableFieldTFs` - NOT safe by the reset alone: `realloc` re-slices
                     them to `len(FieldsInv)` WITHOUT clearing and `process` reads them
                     (`+=`, `!= nil`).  Safe because of an invariant of the BUILD: `process`
                     with `fieldID == MaxUint16` zeroes every entry below `len(FieldsInv)` at the
                     end of EVERY document, so between documents - and hence at every Reset of
                     a builder that is put back - the whole capacity is zero; a build that fails
                     in the middle of a document is not put back (pool clause below:
                     the path without `put`).  So `TailZero` holds with all-zero content, and
                     `read_after_zeroing`'s conclusion applies although the kind is `truncate`.
    * `tmp0`       - `grabBuf` hands out `tmp0[:size]` uncleared; every user does
                     `n := binary.PutUvarint(buf, v); w.Write(buf[:n])`: written before read.
    synonymIndexOpaque (section_synonym_index.go)
    * `ThesaurusInv`, `SynonymTermToID`, `SynonymIDtoTerm` - `getOrDefineThesaurus` appends
                     (fresh maps) from length 0; never re-sliced.
    * `tmp0`       - `grabBuf`, as above.
    vectorIndexOpaque (section_faiss_vector_index.go)
    * `tmp0`       - `grabBuf`, as above.
    chunkedIntCoder (intcoder.go) / chunkedContentCoder (contentcoder.go)
    * `final`      - `c.final = append(c.final, ..)` only; read as a whole after `Close`.
    * `chunkMeta`  - `append(c.chunkMeta, MetaData{..})` from length 0. -/
def allowTruncate : List (String × String) := [
  ("interim", "FieldsInv"), ("interim", "tmp0"), ("interim", "tmp1"),
  ("invertedIndexOpaque", "FreqNorms"), ("invertedIndexOpaque", "Locs"),
  ("invertedIndexOpaque", "numTermsPerPostingsList"),
  ("invertedIndexOpaque", "numLocsPerPostingsList"),
  ("invertedIndexOpaque", "reusableFieldLens"), ("invertedIndexOpaque", "reusableFieldTFs"),
  ("invertedIndexOpaque", "tmp0"),
  ("synonymIndexOpaque", "ThesaurusInv"), ("synonymIndexOpaque", "SynonymTermToID"),
  ("synonymIndexOpaque", "SynonymIDtoTerm"), ("synonymIndexOpaque", "tmp0"),
  ("vectorIndexOpaque", "tmp0"),
  ("chunkedIntCoder", "final"),
  ("chunkedContentCoder", "final"), ("chunkedContentCoder", "chunkMeta")
]

/-- `notReset` is safe ONLY for these fields.  Justification:

    * `synonymIndexOpaque.thesaurusAddrs` - read only through `FieldIDtoThesaurusID`, which IS
                     reset (`setNil`: `AddrForField` then returns 0) and is refilled by this
                     build's `getOrDefineThesaurus`; `writeThesauri` assigns every thesaurus id
                     of this build before the fields section is written.
    * `synonymIndexOpaque.FieldsMap` - `Set("fieldsMap", ..)` by `interim.convert` at the start
                     of every build, before `process`.
    * `vectorIndexOpaque.lastNumVecs`, `lastNumFields` - ASSIGNED by `Reset` (the sizes of the
                     maps being dropped); used only as `make(map, hint)` capacity hints.
    * `chunkedIntCoder.chunkSize`, `chunkedContentCoder.chunkSize` - set by `SetChunkSize`, which
                     the users call right after `Reset` (or by the constructor).
    * `chunkedIntCoder.buf` - scratch for `binary.PutUvarint`, written before read; grown by
                     `make` when too small.
    * `chunkedContentCoder.compressed` - `snappy.Encode(c.compressed[:cap(c.compressed)], ..)`
                     returns the written prefix; written before read.
    * `chunkedContentCoder.w`, `progressiveWrite` - configuration fixed by the constructor; a
                     coder lives within one `writeDicts` call (one writer), never across builds. -/
def allowNotReset : List (String × String) := [
  ("synonymIndexOpaque", "FieldsMap"), ("synonymIndexOpaque", "thesaurusAddrs"),
  ("vectorIndexOpaque", "lastNumVecs"), ("vectorIndexOpaque", "lastNumFields"),
  ("chunkedIntCoder", "chunkSize"), ("chunkedIntCoder", "buf"),
  ("chunkedContentCoder", "chunkSize"), ("chunkedContentCoder", "compressed"),
  ("chunkedContentCoder", "w"), ("chunkedContentCoder", "progressiveWrite")
]

/-- Fields that are re-sliced within capacity and READ (or appended into their elements)
    without being assigned first; they must be zeroed over their whole length by the reset:
    `IncludeDocValues` (`realloc`: `[:len(FieldsInv)]`, then only set to `true` where wanted),
    `Postings` (`[:numPostingsLists]`, bitmaps reused: must be `Clear()`ed),
    `DictKeys` (`[:n+1]`; `DictKeys[n][:0]`), `Dicts`, the two backing arrays,
    `chunkLens` of both coders (`SetChunkSize`: `[:total]`, then `chunkLens[chunk] = n` only for
    chunks that get data), `Synonyms`, `Thesauri`, `ThesaurusKeys`. -/
def mustZero : List (String × String) := [
  ("invertedIndexOpaque", "IncludeDocValues"), ("invertedIndexOpaque", "Postings"),
  ("invertedIndexOpaque", "DictKeys"), ("invertedIndexOpaque", "Dicts"),
  ("invertedIndexOpaque", "freqNormsBacking"), ("invertedIndexOpaque", "locsBacking"),
  ("chunkedIntCoder", "chunkLens"), ("chunkedContentCoder", "chunkLens"),
  ("synonymIndexOpaque", "Synonyms"), ("synonymIndexOpaque", "Thesauri"),
  ("synonymIndexOpaque", "ThesaurusKeys")
]

/-- The reusable structs and their number of fields (a struct that loses all its fields, or
    disappears, must not pass vacuously; a new field changes the count and forces a review). -/
def expectedStructs : List (String × Nat) := [
  ("interim", 12), ("invertedIndexOpaque", 25), ("synonymIndexOpaque", 15),
  ("vectorIndexOpaque", 8), ("chunkedIntCoder", 7), ("chunkedContentCoder", 11)
]

/-- The decidable side condition (see header). -/
def c10SideCondition (fields : List (String × List String)) (facts : List ResetFact) : Bool :=
  (fields.map fun p => (p.1, p.2.length)) == expectedStructs
  && fields.all (fun p => !unrec p.1 && allRecognised p.2)
  && facts.all (fun f => !unrec f.struct && !unrec f.field)
  && Complete fields facts
  && ResetSafe facts allowTruncate allowNotReset
  && mustZero.all (fun m => facts.any fun f => (f.struct, f.field) == m && zeroing f.kind)

/-- INSTANCE: the obligation that breaks when the Go source changes. -/
theorem c10SideCondition_holds :
    c10SideCondition Facts.structFields Facts.resetFacts = true := by decide +kernel

/-- The clauses of `c10SideCondition`, by name, so that a violating table is refuted at the clause
    that rejects it (why: `C17.Checked`). -/
structure Checked (fields : List (String × List String)) (facts : List ResetFact) : Prop where
  structs : ((fields.map fun p => (p.1, p.2.length)) == expectedStructs) = true
  fieldsRecognised : fields.all (fun p => !unrec p.1 && allRecognised p.2) = true
  factsRecognised : facts.all (fun f => !unrec f.struct && !unrec f.field) = true
  complete : Complete fields facts = true
  safe : ResetSafe facts allowTruncate allowNotReset = true
  zeroed : mustZero.all (fun m => facts.any fun f => (f.struct, f.field) == m && zeroing f.kind)
    = true

theorem checked {fields : List (String × List String)} {facts : List ResetFact}
    (h : c10SideCondition fields facts = true) : Checked fields facts := by
  simp only [c10SideCondition, Bool.and_eq_true] at h
  obtain ⟨⟨⟨⟨⟨h1, h2⟩, h3⟩, h4⟩, h5⟩, h6⟩ := h
  exact ⟨h1, h2, h3, h4, h5, h6⟩

/-- C10, completeness: exactly one reset fact per declared field of the six reusable structs, in
    declaration order. -/
theorem C10_complete : Complete Facts.structFields Facts.resetFacts = true :=
  (checked c10SideCondition_holds).complete

/-- C10: every field's reset kind leaves nothing stale, or the field is on an allow-list. -/
theorem C10_resetSafe : ResetSafe Facts.resetFacts allowTruncate allowNotReset = true :=
  (checked c10SideCondition_holds).safe

/-- The allow-lists contain nothing superfluous: every entry is a field that really has that
    kind (so a field that becomes properly zeroed must be taken off the list). -/
theorem allowLists_tight :
    allowTruncate.all (fun a => Facts.resetFacts.any fun f =>
        (f.struct, f.field) == a && f.kind == truncate) = true
    ∧ allowNotReset.all (fun a => Facts.resetFacts.any fun f =>
        (f.struct, f.field) == a && f.kind == notReset) = true := by decide +kernel

/-- C10, container clause: for every field that is NOT on an allow-list (nor a `bytes.Buffer`,
    `hB`: for those see `visible_after_truncate_appends`), whatever a build did to it, after `Reset`
    a later re-slice-and-read observes only zero values. -/
theorem C10_no_stale (f : ResetFact) (hf : f ∈ Facts.resetFacts)
    (hT : (f.struct, f.field) ∉ allowTruncate) (hN : (f.struct, f.field) ∉ allowNotReset)
    (hB : f.kind ≠ bufferReset)
    (cap : Nat) (ops : List SOp) (n i : Nat) :
    ((applyReset f.kind (runOps (Slice.fresh cap) ops)).reslice n).read i = 0 := by
  apply read_after_zeroing
  have h := C10_resetSafe
  simp only [ResetSafe, List.all_eq_true] at h
  have hk := h f hf
  cases hkind : f.kind <;> simp only [hkind] at hk hB <;> simp [zeroing]
  · exact hT (by simpa using hk)
  · exact hB rfl
  · exact hN (by simpa using hk)

/-- The builder pool: `newWithChunkMode` takes one builder; it either fails and drops it
    (`get use ret` - a failed build never returns its builder) or puts it back exactly once;
    the error of `s.convert` is returned (so the failure path is taken on a failed build). -/
theorem C10_builder_pool_shape :
    (Facts.poolFns.filter (·.pool == "interimPool"))
      = [⟨"ZapPlugin.newWithChunkMode", "interimPool",
          [[.get, .use, .ret], [.get, .use, .put, .ret]]⟩]
    ∧ Facts.errFacts.contains ⟨"ZapPlugin.newWithChunkMode", "s.convert", .returned⟩ = true := by
  decide +kernel

/-- C10, pool clause: any number of concurrent builds, EVERY interleaving: no builder is used
    by two builds, none is in the pool twice, none is used after being put back. -/
theorem C10_builder_pool (calls : Nat → List (List PoolEv))
    (hcalls : ∀ i, ∀ w ∈ calls i, ∃ f ∈ Facts.poolFns, f.pool = "interimPool" ∧ w ∈ f.paths)
    (sched : Pool.Sched) : Pool.Safe (Pool.exec (Pool.init calls) sched) :=
  C11.C11_pool "interimPool" calls hcalls sched

/-- `IncludeDocValues` (zeroThenTruncate): build 1 has 3 fields, field 2 with doc values;
    build 2 has 3 fields, none with doc values: field 2 reads `false`. -/
example : ((applyReset zeroThenTruncate (runOps (Slice.fresh 3) [.write 2 1])).reslice 3).read 2 = 0 := by
  decide

/-- Had `Reset` only truncated it, build 2 would see field 2 WITH doc values. -/
example : ((applyReset truncate (runOps (Slice.fresh 3) [.write 2 1])).reslice 3).read 2 = 1 := by
  decide

/-- `chunkLens` (zeroed over its length, `SetChunkSize` re-slices): a coder used for 4 chunks
    (lengths 5,6,7,8), reset, then set to 2 chunks, reset again, then set back to 4 chunks: all
    four lengths read 0 - also the two that were beyond `len` during the second use. -/
example :
    let c1 := runOps (Slice.fresh 4) [.write 0 5, .write 1 6, .write 2 7, .write 3 8]
    let c2 := runOps ((applyReset zeroThenTruncate c1).reslice 2) [.write 0 9, .write 1 9]
    let c3 := (applyReset zeroThenTruncate c2).reslice 4
    (List.range 4).map c3.read = [0, 0, 0, 0] := by decide +kernel

/-- With `truncate` instead, chunk 3 of the new use starts with the old length 8. -/
example :
    let c1 := runOps (Slice.fresh 4) [.write 0 5, .write 1 6, .write 2 7, .write 3 8]
    ((applyReset truncate c1).reslice 4).read 3 = 8 := by decide

/-- Append-only after truncate (e.g. `numTermsPerPostingsList`): only what was appended is
    visible, whatever the capacity held. -/
example : (appendAll (applyReset truncate (runOps (Slice.fresh 4) [.write 0 5, .write 3 8])) [1, 2]).visible
    = [1, 2] := by decide

/-! The side condition rejects: a zeroing loop removed (`IncludeDocValues` only truncated) or a
    reset dropped altogether (`chunkLens`, `interim.FieldsMap`); a new field (the count of its
    struct changes); a fact missing; a struct that disappeared; an extraction failure. -/

def setKind (s fld : String) (k : ResetKind) : List ResetFact :=
  Facts.resetFacts.map fun f => if f.struct == s && f.field == fld then { f with kind := k } else f

example : c10SideCondition Facts.structFields
    (setKind "invertedIndexOpaque" "IncludeDocValues" truncate) = false :=
  Bool.eq_false_iff.mpr fun h => absurd (checked h).safe (by decide +kernel)
example : c10SideCondition Facts.structFields
    (setKind "chunkedIntCoder" "chunkLens" notReset) = false :=
  Bool.eq_false_iff.mpr fun h => absurd (checked h).safe (by decide +kernel)
example : c10SideCondition Facts.structFields
    (setKind "interim" "FieldsMap" notReset) = false :=
  Bool.eq_false_iff.mpr fun h => absurd (checked h).safe (by decide +kernel)
example : c10SideCondition
    (Facts.structFields.map fun p => if p.1 == "interim" then (p.1, p.2 ++ ["newField"]) else p)
    (Facts.resetFacts ++ [⟨"interim", "newField", notReset⟩]) = false :=
  Bool.eq_false_iff.mpr fun h => absurd (checked h).structs (by decide +kernel)
example : c10SideCondition Facts.structFields (Facts.resetFacts.drop 1) = false :=
  Bool.eq_false_iff.mpr fun h => absurd (checked h).complete (by decide +kernel)
example : c10SideCondition (Facts.structFields.drop 1) (Facts.resetFacts.drop 12) = false :=
  Bool.eq_false_iff.mpr fun h => absurd (checked h).structs (by decide +kernel)
example : c10SideCondition Facts.structFields
    (Facts.resetFacts.map fun f => if f.field == "opaque"
      then { f with field := "UNRECOGNISED Reset method of interim" } else f) = false :=
  Bool.eq_false_iff.mpr fun h => absurd (checked h).factsRecognised (by decide +kernel)

end Zap.C10

#print axioms Zap.Theory.Reset.read_after_zeroing
#print axioms Zap.Theory.Reset.stale_after_truncate
#print axioms Zap.Theory.Reset.visible_after_truncate_appends
#print axioms Zap.Theory.Reset.read_after_truncate_overwrite
#print axioms Zap.C10.c10SideCondition_holds
#print axioms Zap.C10.C10_complete
#print axioms Zap.C10.C10_resetSafe
#print axioms Zap.C10.C10_no_stale
#print axioms Zap.C10.C10_builder_pool
