/-
  ZapProofs.Props.DocNumWidth: a regenerated-fact obligation shared by the merge properties.

  Document numbers are 32 bits wide in the v16 file format (roaring bitmaps, vector id -> document
  maps) and 64 bits wide in the API.  The models use `Nat`; the tie below is what keeps that honest
  for the one failure mode no affordable script can exhibit: a conversion that squeezes a document
  number through 8 or 16 bits only misbehaves in segments of more than 65 535 documents (the Lean
  driver is far too slow for a transcript of that size).  `tools/gofacts` lists every conversion
  `uint16(..)`, `uint8(..)`, `int16(..)`, `int8(..)`, `byte(..)` whose operand names a document
  number; the list must be empty.
-/
import ZapModel.Gen.Facts

namespace Zap.DocNumWidth

/-- No document number is ever narrowed below 32 bits anywhere in the package. -/
theorem no_narrow_docnum : Gen.Facts.narrowDocConversions = [] := by decide

end Zap.DocNumWidth

#print axioms Zap.DocNumWidth.no_narrow_docnum
