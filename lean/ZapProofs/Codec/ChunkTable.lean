/-
  ZapProofs.Codec.ChunkTable: the chunk table (`chunkLens`, `final`) that the chunked int coder
  (intcoder.go) and the content coder (contentcoder.go) share.  Reader side: slicing `final` at
  `chunkBoundary (endOffsets lens)` returns the chunk (`chunk_slice`).  Writer side: `ChunkInv`,
  the table after the adds `p` for ANY coder that flushes chunk by chunk; what the bytes of a
  chunk are (`seg`) is a parameter constrained only by `SegLaw`, which `SegLaw.of_chunkOf` gives
  for both coders.
-/
import ZapModel.Codec
import ZapProofs.Base.Basic

namespace Zap.Codec

/-! ### reader side: end offsets and chunk boundaries -/

theorem sumList_cons (x : Nat) (xs : List Nat) : sumList (x :: xs) = x + sumList xs := rfl

theorem endOffsets_foldl (lens : List Nat) : ∀ (acc : List Nat) (s : Nat),
    (lens.foldl (fun (acc : List Nat × Nat) l => (acc.1 ++ [acc.2 + l], acc.2 + l)) (acc, s)).1
      = acc ++ (List.range lens.length).map (fun i => s + sumList (lens.take (i + 1))) := by
  induction lens with
  | nil => exact fun acc s => (List.append_nil acc).symm
  | cons l ls ih =>
    intro acc s
    rw [List.foldl_cons, ih, List.length_cons, List.range_succ_eq_map, List.map_cons, List.map_map,
      List.append_assoc]
    simp only [List.take_succ_cons, List.take_zero, sumList, Nat.add_zero, Nat.add_assoc,
      List.singleton_append, Function.comp_def]

theorem endOffsets_prefix_sums (lens : List Nat) :
    endOffsets lens = (List.range lens.length).map (fun i => sumList (lens.take (i + 1))) := by
  rw [endOffsets, endOffsets_foldl, List.nil_append]
  simp only [Nat.zero_add]

theorem endOffsets_length (lens : List Nat) : (endOffsets lens).length = lens.length := by
  rw [endOffsets_prefix_sums]; simp

theorem endOffsets_getD (lens : List Nat) (c : Nat) (h : c < lens.length) :
    (endOffsets lens).getD c 0 = sumList (lens.take (c + 1)) := by
  rw [endOffsets_prefix_sums]
  simp [List.getD_eq_getElem?_getD, h]

theorem chunkBoundary_endOffsets (lens : List Nat) (c : Nat) (h : c < lens.length) :
    chunkBoundary (endOffsets lens) c = (sumList (lens.take c), sumList (lens.take (c + 1))) := by
  unfold chunkBoundary
  rw [endOffsets_getD lens c h]
  cases c with
  | zero => simp [sumList]
  | succ c =>
    rw [if_neg (Nat.succ_ne_zero c), Nat.add_sub_cancel, endOffsets_getD lens c (Nat.lt_of_succ_lt h)]

theorem endOffsets_getElem (lens : List Nat) (i : Nat) (h : i < (endOffsets lens).length) :
    (endOffsets lens)[i] = sumList (lens.take (i + 1)) := by
  have := endOffsets_getD lens i (by rwa [endOffsets_length] at h)
  rwa [List.getD_eq_getElem?_getD, List.getElem?_eq_getElem h, Option.getD_some] at this

theorem mem_endOffsets_le (lens : List Nat) : ∀ o ∈ endOffsets lens, o ≤ sumList lens := by
  intro o ho
  obtain ⟨i, hi, rfl⟩ := List.getElem_of_mem ho
  rw [endOffsets_getElem]
  exact sumList_take_le _ _

theorem pairwise_endOffsets (lens : List Nat) : (endOffsets lens).Pairwise (· ≤ ·) := by
  rw [List.pairwise_iff_getElem]
  intro i j hi hj hij
  rw [endOffsets_getElem, endOffsets_getElem]
  exact sumList_take_mono _ _ _ (Nat.succ_le_succ (Nat.le_of_lt hij))

theorem getLastD_endOffsets (lens : List Nat) (hne : lens ≠ []) :
    (endOffsets lens).getLastD 0 = sumList lens := by
  have hl : 0 < lens.length := List.length_pos_iff.mpr hne
  rw [List.getLastD_eq_getLast?, List.getLast?_eq_getElem?, ← List.getD_eq_getElem?_getD, endOffsets_length,
    endOffsets_getD lens _ (Nat.sub_lt hl Nat.one_pos), Nat.sub_add_cancel hl, List.take_length]

theorem segment_extract (segs : List Bytes) : ∀ (c : Nat) (h : c < segs.length),
    (segs.flatten.drop (sumList ((segs.map List.length).take c))).take
      (sumList ((segs.map List.length).take (c + 1)) - sumList ((segs.map List.length).take c))
      = segs[c] := by
  induction segs with
  | nil => intro c h; simp at h
  | cons seg segs ih =>
    intro c h
    cases c with
    | zero => simp [sumList]
    | succ c =>
      have h' : c < segs.length := by simpa using h
      simp only [List.map_cons, List.take_succ_cons, sumList_cons, List.flatten_cons,
        List.getElem_cons_succ]
      rw [Nat.add_sub_add_left, List.drop_append, List.drop_eq_nil_of_le (Nat.le_add_right _ _),
        List.nil_append, Nat.add_sub_cancel_left]
      exact ih c h'

theorem chunk_slice (segs : List Bytes) (c : Nat) (h : c < segs.length) :
    let be := chunkBoundary (endOffsets (segs.map List.length)) c
    (segs.flatten.drop be.1).take (be.2 - be.1) = segs[c] := by
  simp only
  rw [chunkBoundary_endOffsets _ c (by simpa using h)]
  exact segment_extract segs c h

/-! ### writer side: the table while chunks are flushed one after the other -/

theorem lens_set (f : Nat → Nat) (n curr c' : Nat) (hcur : curr < c')
    (hz : ∀ k, curr < k → k < c' → f k = 0) :
    ((List.range n).map (fun k => if k < curr then f k else 0)).set curr (f curr)
      = (List.range n).map (fun k => if k < c' then f k else 0) := by
  apply List.ext_getElem (by simp)
  intro i h1 h2
  simp only [List.getElem_set, List.getElem_map, List.getElem_range]
  by_cases hi : curr = i
  · subst hi; simp [hcur]
  · simp only [hi, if_false]
    by_cases h3 : i < curr
    · simp [h3, Nat.lt_trans h3 hcur]
    · by_cases h4 : i < c'
      · simp [h3, h4, hz i (Nat.lt_of_le_of_ne (Nat.le_of_not_lt h3) hi) h4]
      · simp [h3, h4]

theorem flatten_range_succ (f : Nat → Bytes) (m : Nat) :
    ((List.range (m + 1)).map f).flatten = ((List.range m).map f).flatten ++ f m := by
  simp [List.range_succ]

theorem flatten_range_extend (f : Nat → Bytes) (m m' : Nat) (h : m ≤ m')
    (hz : ∀ k, m ≤ k → k < m' → f k = []) :
    ((List.range m').map f).flatten = ((List.range m).map f).flatten := by
  induction m' with
  | zero =>
    have : m = 0 := Nat.le_zero.mp h
    subst this; rfl
  | succ k ih =>
    by_cases hk : m = k + 1
    · subst hk; rfl
    · have hmk : m ≤ k := Nat.le_of_lt_succ (Nat.lt_of_le_of_ne h hk)
      rw [flatten_range_succ, hz k hmk (Nat.lt_succ_self k), List.append_nil]
      exact ih hmk (fun j h1 h2 => hz j h1 (Nat.lt_succ_of_lt h2))

/-- `chunkLens` and `final` when the chunks before `curr` are flushed, chunk `k` holding `f k`,
    and the table entries from `curr` on are still zero. -/
structure Flushed (f : Nat → Bytes) (n curr : Nat) (lens : List Nat) (final : Bytes) : Prop where
  hfinal : final = ((List.range curr).map f).flatten
  hlens : lens = (List.range n).map (fun k => if k < curr then (f k).length else 0)

theorem Flushed.new (f : Nat → Bytes) (n : Nat) : Flushed f n 0 (List.replicate n 0) [] where
  hfinal := rfl
  hlens := by
    simp only [Nat.not_lt_zero, if_false]
    rw [List.map_const', List.length_range]

theorem Flushed.congr {f g : Nat → Bytes} {n curr lens final} (h : ∀ k, k < curr → f k = g k)
    (t : Flushed f n curr lens final) : Flushed g n curr lens final where
  hfinal := by
    rw [t.hfinal]
    congr 1
    exact List.map_congr_left (fun k hk => h k (List.mem_range.mp hk))
  hlens := by
    rw [t.hlens]
    apply List.map_congr_left
    intro k _
    split
    · rw [h k ‹_›]
    · rfl

theorem Flushed.flush {f : Nat → Bytes} {n curr lens final} (t : Flushed f n curr lens final)
    (c' : Nat) (hgt : curr < c') (hnil : ∀ k, curr < k → k < c' → f k = []) :
    Flushed f n c' (lens.set curr (f curr).length) (final ++ f curr) where
  hfinal := by
    rw [t.hfinal, ← flatten_range_succ]
    exact (flatten_range_extend _ (curr + 1) c' hgt (fun k h1 h2 => hnil k h1 h2)).symm
  hlens := by
    rw [t.hlens]
    exact lens_set (fun k => (f k).length) n curr c' hgt
      (fun k h1 h2 => by rw [hnil k h1 h2]; rfl)

theorem Flushed.closed {f : Nat → Bytes} {n lens final} (t : Flushed f n n lens final) :
    lens = ((List.range n).map f).map List.length ∧ final = ((List.range n).map f).flatten := by
  refine ⟨?_, t.hfinal⟩
  rw [t.hlens, List.map_map]
  apply List.map_congr_left
  intro k hk
  simp only [List.mem_range.mp hk, if_true, Function.comp]

section
variable {α : Type} {chunk : α → Nat} {seg : List α → Nat → Bytes}

/-- What the table argument needs of `seg p k`, the bytes of chunk `k` after the adds `p`:
    an add to another chunk leaves them alone, and a chunk no add went to has none (other than
    chunk 0, which the content coder flushes even when it is empty). -/
structure SegLaw (chunk : α → Nat) (seg : List α → Nat → Bytes) : Prop where
  snoc_ne : ∀ p a k, chunk a ≠ k → seg (p ++ [a]) k = seg p k
  eq_nil : ∀ p k, 0 < k → (∀ a ∈ p, chunk a ≠ k) → seg p k = []

/-- The coder's table after the adds `p`: all of them went to chunks `≤ curr`, and one of them to
    `curr` itself unless that is still chunk 0. -/
structure ChunkInv (chunk : α → Nat) (seg : List α → Nat → Bytes) (n : Nat) (p : List α)
    (curr : Nat) (lens : List Nat) (final : Bytes) : Prop where
  hcurr : curr < n
  hle : ∀ a ∈ p, chunk a ≤ curr
  hvis : curr = 0 ∨ ∃ a ∈ p, chunk a = curr
  tbl : Flushed (seg p) n curr lens final

theorem ChunkInv.new (m : Nat) :
    ChunkInv chunk seg (m + 1) [] 0 (List.replicate (m + 1) 0) [] :=
  ⟨Nat.succ_pos m, fun _ h => (nomatch h), Or.inl rfl, Flushed.new _ _⟩

theorem ChunkInv.curr_le {n p curr lens final} (inv : ChunkInv chunk seg n p curr lens final)
    {a : α} (hge : ∀ b ∈ p, chunk b ≤ chunk a) : curr ≤ chunk a := by
  rcases inv.hvis with h | ⟨b, hb, h⟩
  · exact h ▸ Nat.zero_le _
  · exact h ▸ hge b hb

theorem ChunkInv.later_nil (law : SegLaw chunk seg) {n p curr lens final}
    (inv : ChunkInv chunk seg n p curr lens final) (k : Nat) (hk : curr < k) : seg p k = [] :=
  law.eq_nil p k (Nat.zero_lt_of_lt hk)
    (fun b hb => Nat.ne_of_lt (Nat.lt_of_le_of_lt (inv.hle b hb) hk))

theorem ChunkInv.same (law : SegLaw chunk seg) {n p curr lens final}
    (inv : ChunkInv chunk seg n p curr lens final) (a : α) (h : chunk a = curr) :
    ChunkInv chunk seg n (p ++ [a]) curr lens final where
  hcurr := inv.hcurr
  hle := List.forall_mem_append.mpr ⟨inv.hle, List.forall_mem_singleton.mpr (Nat.le_of_eq h)⟩
  hvis := Or.inr ⟨a, List.mem_concat_self, h⟩
  tbl := inv.tbl.congr (fun k hk => (law.snoc_ne p a k (h ▸ Nat.ne_of_gt hk)).symm)

theorem ChunkInv.next (law : SegLaw chunk seg) {n p curr lens final}
    (inv : ChunkInv chunk seg n p curr lens final) (a : α) (hgt : curr < chunk a)
    (hlt : chunk a < n) :
    ChunkInv chunk seg n (p ++ [a]) (chunk a) (lens.set curr (seg p curr).length)
      (final ++ seg p curr) where
  hcurr := hlt
  hle := List.forall_mem_append.mpr
    ⟨fun b hb => Nat.le_trans (inv.hle b hb) (Nat.le_of_lt hgt),
      List.forall_mem_singleton.mpr (Nat.le_refl _)⟩
  hvis := Or.inr ⟨a, List.mem_concat_self, rfl⟩
  tbl := (inv.tbl.flush _ hgt (fun k h1 _ => inv.later_nil law k h1)).congr
    (fun k hk => (law.snoc_ne p a k (Nat.ne_of_gt hk)).symm)

theorem ChunkInv.closed (law : SegLaw chunk seg) {n p curr lens final}
    (inv : ChunkInv chunk seg n p curr lens final) :
    lens.set curr (seg p curr).length = ((List.range n).map (seg p)).map List.length ∧
    final ++ seg p curr = ((List.range n).map (seg p)).flatten :=
  (inv.tbl.flush n inv.hcurr (fun k h1 _ => inv.later_nil law k h1)).closed

/-- A fold over adds with non-decreasing chunk numbers keeps an invariant `I` indexed by the adds
    so far, if one add does. -/
theorem foldl_chunks {σ : Type} {add : σ → α → σ} {I : List α → σ → Prop} {n : Nat}
    (step : ∀ p st a, I p st → (∀ b ∈ p, chunk b ≤ chunk a) → chunk a < n →
      I (p ++ [a]) (add st a))
    {st : σ} (h0 : I [] st) :
    ∀ l : List α, l.Pairwise (fun a b => chunk a ≤ chunk b) → (∀ a ∈ l, chunk a < n) →
      I l (l.foldl add st) := by
  refine List.rev_induction (fun _ _ => h0) (fun l a ih hmono hmax => ?_)
  have hp := List.pairwise_append.mp hmono
  rw [List.foldl_append]
  exact step l _ a (ih hp.1 (fun b hb => hmax b (List.mem_append_left _ hb)))
    (fun b hb => hp.2.2 b hb a (List.mem_singleton_self a)) (hmax a List.mem_concat_self)

variable (chunk)

def chunkOf (p : List α) (k : Nat) : List α := p.filter (fun a => chunk a = k)

theorem chunkOf_snoc_ne (p : List α) (a : α) (k : Nat) (h : chunk a ≠ k) :
    chunkOf chunk (p ++ [a]) k = chunkOf chunk p k := by
  simp [chunkOf, List.filter_append, h]

theorem chunkOf_snoc_eq (p : List α) (a : α) :
    chunkOf chunk (p ++ [a]) (chunk a) = chunkOf chunk p (chunk a) ++ [a] := by
  simp [chunkOf, List.filter_append]

theorem chunkOf_eq_nil (p : List α) (k : Nat) (h : ∀ a ∈ p, chunk a ≠ k) :
    chunkOf chunk p k = [] :=
  List.filter_eq_nil_iff.mpr (fun a ha => by simpa using h a ha)

theorem SegLaw.of_chunkOf (g : Nat → List α → Bytes) (hg : ∀ k, 0 < k → g k [] = []) :
    SegLaw chunk (fun p k => g k (chunkOf chunk p k)) where
  snoc_ne := fun p a k h => by simp only [chunkOf_snoc_ne chunk p a k h]
  eq_nil := fun p k hk h => by simp only [chunkOf_eq_nil chunk p k h, hg k hk]

end

/-! Both coders send document `d` to chunk `d / chunkSize`. -/

theorem div_mono {cs : Nat} {α : Type} {l : List (Nat × α)}
    (h : l.Pairwise (fun a b => a.1 ≤ b.1)) : l.Pairwise (fun a b => a.1 / cs ≤ b.1 / cs) :=
  h.imp (fun h => Nat.div_le_div_right h)

theorem div_lt_succ {cs maxDoc : Nat} {α : Type} {l : List (Nat × α)}
    (h : ∀ a ∈ l, a.1 ≤ maxDoc) : ∀ a ∈ l, a.1 / cs < maxDoc / cs + 1 :=
  fun a ha => Nat.lt_succ_of_le (Nat.div_le_div_right (h a ha))

end Zap.Codec
