/-
  Property C04, the doc-value loaders: "opening yields a segment that answers every query
  as the in-memory one" needs the two DUPLICATED loaders of segment.go
  (`(*SegmentBase).loadDvReaders` for in-memory segments, `(*Segment).loadDvReaders` for
  opened files; model: ZapModel/Loaders.lean) to register the same doc-value readers.

  They range over different things (the sections present in a field's map vs. all
  registered sections) in orders Go does not fix (map iteration); the theorems quantify
  over every iteration order.
-/
import ZapProofs.Read.Loaders

namespace Zap.Props.C04Loaders
open Zap.Loaders Zap.Loaders.Lemmas

/-- The in-memory loader registers exactly the readers the table calls for, whatever order
    Go ranges over the section maps in. -/
theorem base_loader_spec (numDocs : Nat) (tbl : FieldTable) (ord : Nat → List SecRec → List SecRec)
    (hn : numDocs ≠ 0) (hord : ∀ fid l, (ord fid l).Perm l) (sec fid : Nat) (i : DvInfo) :
    ((sec, fid), i) ∈ (loadBase numDocs tbl ord).readers ↔ ∃ name, Registers tbl sec fid i name := by
  rw [loadBase_eq numDocs tbl ord hn, run_readers]
  exact exists_congr (fun name => base_registers tbl ord hord sec fid i name)

/-- The file loader registers exactly the same, for a well-formed table. -/
theorem file_loader_spec (numDocs : Nat) (regs : List Nat) (tbl : FieldTable) (hwf : WF regs tbl)
    (ordS : Nat → List Nat) (hn : numDocs ≠ 0) (hord : ∀ fid, (ordS fid).Perm regs)
    (sec fid : Nat) (i : DvInfo) :
    ((sec, fid), i) ∈ (loadFile numDocs tbl ordS).readers ↔ ∃ name, Registers tbl sec fid i name := by
  rw [loadFile_eq numDocs tbl ordS hn, run_readers]
  exact exists_congr (fun name => file_registers regs tbl hwf ordS hord sec fid i name)

theorem base_loader_names (numDocs : Nat) (tbl : FieldTable) (ord : Nat → List SecRec → List SecRec)
    (hn : numDocs ≠ 0) (hord : ∀ fid l, (ord fid l).Perm l) (name : Name) :
    name ∈ (loadBase numDocs tbl ord).names ↔ ∃ sec fid i, Registers tbl sec fid i name := by
  rw [loadBase_eq numDocs tbl ord hn, run_names]
  exact exists_congr (fun sec => exists_congr (fun fid => exists_congr (fun i =>
    base_registers tbl ord hord sec fid i name)))

theorem file_loader_names (numDocs : Nat) (regs : List Nat) (tbl : FieldTable) (hwf : WF regs tbl)
    (ordS : Nat → List Nat) (hn : numDocs ≠ 0) (hord : ∀ fid, (ordS fid).Perm regs) (name : Name) :
    name ∈ (loadFile numDocs tbl ordS).names ↔ ∃ sec fid i, Registers tbl sec fid i name := by
  rw [loadFile_eq numDocs tbl ordS hn, run_names]
  exact exists_congr (fun sec => exists_congr (fun fid => exists_congr (fun i =>
    file_registers regs tbl hwf ordS hord sec fid i name)))

theorem base_readers_functional (numDocs : Nat) (regs : List Nat) (tbl : FieldTable) (hwf : WF regs tbl)
    (ord : Nat → List SecRec → List SecRec) (hn : numDocs ≠ 0) (hord : ∀ fid l, (ord fid l).Perm l)
    (k : Nat × Nat) (v v' : DvInfo) (h : (k, v) ∈ (loadBase numDocs tbl ord).readers)
    (h' : (k, v') ∈ (loadBase numDocs tbl ord).readers) : v = v' := by
  obtain ⟨s, f⟩ := k
  obtain ⟨n, hr⟩ := (base_loader_spec numDocs tbl ord hn hord s f v).mp h
  obtain ⟨n', hr'⟩ := (base_loader_spec numDocs tbl ord hn hord s f v').mp h'
  exact registers_functional regs tbl hwf s f v v' n n' hr hr'

/-- For every well-formed table, every document count and every pair of iteration orders:
    the same set of (section, field id) ↦ reader entries, the same reader under every key
    (`fieldDvReaders[sec][fid]`), and the same set of `fieldDvNames`
    (`VisitableDocValueFields`). -/
theorem loaders_agree (numDocs : Nat) (regs : List Nat) (tbl : FieldTable) (hwf : WF regs tbl)
    (ord : Nat → List SecRec → List SecRec) (hord : ∀ fid l, (ord fid l).Perm l)
    (ordS : Nat → List Nat) (hordS : ∀ fid, (ordS fid).Perm regs) :
    (∀ k i, (k, i) ∈ (loadBase numDocs tbl ord).readers ↔ (k, i) ∈ (loadFile numDocs tbl ordS).readers) ∧
    (∀ sec fid, (loadBase numDocs tbl ord).get? sec fid = (loadFile numDocs tbl ordS).get? sec fid) ∧
    (∀ name, name ∈ (loadBase numDocs tbl ord).names ↔ name ∈ (loadFile numDocs tbl ordS).names) := by
  by_cases hn : numDocs = 0
  · subst hn
    simp [loadBase, loadFile]
  · have hmem : ∀ k i, (k, i) ∈ (loadBase numDocs tbl ord).readers ↔
        (k, i) ∈ (loadFile numDocs tbl ordS).readers := by
      rintro ⟨sec, fid⟩ i
      rw [base_loader_spec numDocs tbl ord hn hord, file_loader_spec numDocs regs tbl hwf ordS hn hordS]
    refine ⟨hmem, ?_, ?_⟩
    · intro sec fid
      have hb := base_readers_functional numDocs regs tbl hwf ord hn hord
      unfold DvState.get?
      refine Option.ext fun v => ?_
      rw [lookup_eq_some_iff_of_functional _ hb, hmem, lookup_eq_some_iff_of_functional _
        fun k v v' h h' => hb k v v' ((hmem k v).mpr h) ((hmem k v').mpr h')]
    · intro name
      rw [base_loader_names numDocs tbl ord hn hord, file_loader_names numDocs regs tbl hwf ordS hn hordS]

/-- The `_id` field (field id 0) is registered, by both loaders, whenever it has doc values. -/
theorem loaders_contain_id (numDocs : Nat) (regs : List Nat) (tbl : FieldTable) (hwf : WF regs tbl)
    (ord : Nat → List SecRec → List SecRec) (hord : ∀ fid l, (ord fid l).Perm l)
    (ordS : Nat → List Nat) (hordS : ∀ fid, (ordS fid).Perm regs) (hn : numDocs ≠ 0)
    (secs : List SecRec) (rest : FieldTable) (htbl : tbl = (idName, secs) :: rest)
    (sec addr : Nat) (i : DvInfo) (hrec : (sec, addr, some i) ∈ secs) (haddr : addr > 0) :
    (loadBase numDocs tbl ord).get? sec 0 = some i ∧ (loadFile numDocs tbl ordS).get? sec 0 = some i ∧
    idName ∈ (loadBase numDocs tbl ord).names ∧ idName ∈ (loadFile numDocs tbl ordS).names := by
  have hreg : Registers tbl sec 0 i idName := by
    subst htbl
    exact ⟨(idName, secs), rfl, rfl, (sec, addr, some i), hrec, rfl, haddr, rfl⟩
  have hb : ((sec, 0), i) ∈ (loadBase numDocs tbl ord).readers :=
    (base_loader_spec numDocs tbl ord hn hord sec 0 i).mpr ⟨_, hreg⟩
  have hagree := loaders_agree numDocs regs tbl hwf ord hord ordS hordS
  have hbget : (loadBase numDocs tbl ord).get? sec 0 = some i := by
    unfold DvState.get?
    rw [lookup_eq_some_iff_of_functional]
    · exact hb
    · exact base_readers_functional numDocs regs tbl hwf ord hn hord
  refine ⟨hbget, ?_, ?_, ?_⟩
  · rw [← hagree.2.1]; exact hbget
  · exact (base_loader_names numDocs tbl ord hn hord idName).mpr ⟨sec, 0, i, hreg⟩
  · exact (file_loader_names numDocs regs tbl hwf ordS hn hordS idName).mpr ⟨sec, 0, i, hreg⟩

/-- `_id` with doc values in the inverted section (0); "body" with an inverted section
    that is not uninverted and a vector section (1, never has doc values); "tags" with
    doc values, its map listed in the other order, and an absent (address 0) synonym
    section (2). -/
def tbl1 : FieldTable := [
  (idName, [(0, 77, some ⟨10, 40⟩), (1, 0, none)]),
  (strBytes "body", [(0, 120, none), (1, 300, none)]),
  (strBytes "tags", [(2, 0, none), (0, 200, some ⟨50, 70⟩)]) ]

def regs1 : List Nat := [0, 1, 2]

theorem wf_tbl1 : WF regs1 tbl1 where
  secsNodup := by decide
  secsReg := by decide

def ordRev : Nat → List SecRec → List SecRec := fun _ l => l.reverse
def ordSRot : Nat → List Nat := fun fid => if fid % 2 = 0 then [2, 0, 1] else [1, 2, 0]

example : (loadBase 5 tbl1 (fun _ l => l)).readers = [((0, 2), ⟨50, 70⟩), ((0, 0), ⟨10, 40⟩)] := by
  decide +kernel
example : (loadFile 5 tbl1 ordSRot).readers = [((0, 2), ⟨50, 70⟩), ((0, 0), ⟨10, 40⟩)] := by
  decide +kernel
example : (loadBase 5 tbl1 ordRev).names = [idName, strBytes "tags"] := by decide +kernel
example : (loadFile 5 tbl1 ordSRot).names = [idName, strBytes "tags"] := by decide +kernel
example : (loadBase 5 tbl1 ordRev).get? 0 0 = (loadFile 5 tbl1 ordSRot).get? 0 0 := by decide +kernel
example : (loadBase 0 tbl1 ordRev) = {} ∧ (loadFile 0 tbl1 ordSRot) = {} := by decide +kernel

/-- A loader that skips field 0 loses the `_id` reader: it disagrees with the in-memory
    loader on the very table above. -/
theorem skip0_disagrees :
    (loadFileSkip0 5 tbl1 ordSRot).get? 0 0 = none ∧ (loadBase 5 tbl1 ordRev).get? 0 0 = some ⟨10, 40⟩ ∧
    (loadFileSkip0 5 tbl1 ordSRot).visitable idName = false ∧
    (loadBase 5 tbl1 ordRev).visitable idName = true := by decide +kernel

/-- Well-formedness is needed: a section that has a record but is not registered (a file
    with a vector-like section carrying doc values, opened by a build that does not
    register section 1) is seen by the in-memory loader only. -/
theorem unregistered_section_disagrees :
    let tbl : FieldTable := [(idName, [(0, 77, some ⟨10, 40⟩), (1, 90, some ⟨1, 2⟩)])]
    (loadBase 5 tbl (fun _ l => l)).get? 1 0 = some ⟨1, 2⟩ ∧
    (loadFile 5 tbl (fun _ => [0])).get? 1 0 = none := by decide +kernel

end Zap.Props.C04Loaders

section Report
open Zap.Props.C04Loaders
#print axioms base_loader_spec
#print axioms file_loader_spec
#print axioms base_loader_names
#print axioms file_loader_names
#print axioms loaders_agree
#print axioms loaders_contain_id
#print axioms skip0_disagrees
#print axioms unregistered_section_disagrees
end Report
