/-
  C06, doc-value part: after a merge, the doc values of every surviving
  document are exactly what its input segment recorded for it, under the new
  number; the merged doc-value data contains nothing else; it is again strictly
  ascending by document number, in range and without empty entries; a merged
  field has doc-value data iff some input has the field with doc-value data.

  This is the behaviour AFTER fix D11.  Before it, `mergeAndPersistInvertedSection`
  copied doc values only from the inputs "in focus" for the field (those whose
  dictionary of the field has at least one key), so an input in which the field
  carries doc values but not a single term (a geo-shape field: the encoded
  shape is an extra doc value) lost them.  `C06_dv_fix_D11` below is that
  situation on literal segments; on the real code it is reproduced by
  /verif/corpus/regress/k1_shape_only_field_merge.script.

  Vocabulary:
    `dvOf s nm d`   the doc-value byte strings of document `d` in field `nm` of
                    segment `s` (`[]` when the field is absent, has no doc-value
                    data, or the data has no entry for `d`)
  Helpers are in ZapProofs/Merge/Dv.lean (`dvData s nm` is the doc-value data the reader finds
  under `nm`, `dvPart nm (s, map)` what one input contributes: `dvMerge map (dvData s nm)`; the
  merged data is the concatenation over ALL inputs in order).
-/
import ZapProofs.Merge.Dv
import ZapProofs.Props.C05

namespace Zap
open MergeL MergeDv

def dvOf (s : Seg) (nm : Name) (d : Nat) : List Bytes :=
  match s.field? nm with
  | none => []
  | some f =>
    match f.dv with
    | none => []
    | some dv => ((dv.find? (·.1 = d)).map (·.2)).getD []

theorem dvOf_eq (s : Seg) (nm : Name) (d : Nat) : dvOf s nm d = Dv.recorded (dvData s nm) d := by
  unfold dvOf dvData
  cases s.field? nm with
  | none => rfl
  | some f =>
    dsimp only
    cases f.dv <;> rfl

/-- What a doc-value visit delivers for one listed name (`Dv.fieldOut`, the
    per-name result of `Seg.visitDocValues`, see `C03_fresh_visit`) is `dvOf`,
    each value paired with the name - on any segment with at least one
    document (a segment without documents shows the reader no fields). -/
theorem fieldOut_eq_dvOf (s : Seg) (hn : s.numDocs ≠ 0) (doc : Nat) (n : Name) :
    Dv.fieldOut s doc n = (dvOf s n doc).map (fun t => (n, t)) := by
  rw [Dv.fieldOut_eq_find]
  unfold dvOf Seg.field? Seg.loadedFields
  rw [if_neg hn]
  cases s.fields.find? (·.name = n) with
  | none => rfl
  | some f =>
    dsimp only
    cases f.dv <;> rfl

/-- C06 (doc values).  With at least one survivor, for every field name `nm`:
    (1) every surviving document - document `d` of input `i`, renumbered `d'`
        by the map the merge returns - has in the merged segment exactly the
        doc values it had in its input segment;
    (2) every document number that has doc values in the merged segment is the
        new number of a surviving document.
    No hypothesis on the inputs: fields are those the reader finds by name,
    whether or not the input has a single term in the field. -/
theorem C06_dv (v : Bool) (mode : Nat) (segs : List Seg) (drops : List (Option (List Nat)))
    (hne : newDocCount segs drops ≠ 0) (nm : Name) :
    (∀ i (hi : i < segs.length) d d', d < segs[i].numDocs →
        ((mergeSegs v mode segs drops).2.getD i []).getD d none = some d' →
        dvOf (mergeSegs v mode segs drops).1 nm d' = dvOf segs[i] nm d) ∧
    (∀ d', dvOf (mergeSegs v mode segs drops).1 nm d' ≠ [] →
        ∃ i, ∃ _ : i < segs.length, ∃ d, d < segs[i].numDocs ∧
          ((mergeSegs v mode segs drops).2.getD i []).getD d none = some d') := by
  rw [C05_maps v mode segs drops]
  -- the merged side, as a lookup in the concatenation over all inputs
  have hm : ∀ d', dvOf (mergeSegs v mode segs drops).1 nm d' =
      Dv.recorded ((segs.zip (remapAll segs drops 0)).flatMap (dvPart nm)) d' := fun d' => by
    rw [dvOf_eq, dvData_mergeSegs v mode segs drops hne]
  refine ⟨?_, ?_⟩
  · intro i hi d d' _ hd
    rw [hm, recorded_all_parts nm segs drops i hi hd, dvOf_eq]
  · intro d' h
    rw [hm] at h
    obtain ⟨q, hq, hk, _⟩ := recorded_ne_nil h
    obtain ⟨i, hi, d, hd, hmap⟩ := mem_all_parts hq
    exact ⟨i, hi, d, hd, by rw [hmap, hk]⟩

/-- The same with the new number given by the specification of C05
    (`Spec.newNum`: survivors numbered consecutively in segment-then-document
    order), under the hypothesis of `C05_count` / `C05_stored` that drop lists
    name only existing documents; that there is a survivor is implied. -/
theorem C06_dv_newNum (v : Bool) (mode : Nat) (segs : List Seg) (drops : List (Option (List Nat)))
    (hrange : dropsInRange segs drops = true)
    (i d k : Nat) (hi : i < segs.length) (hd : d < segs[i].numDocs)
    (hk : Spec.newNum (segs.map (·.numDocs)) drops i d = some k) (nm : Name) :
    dvOf (mergeSegs v mode segs drops).1 nm k = dvOf segs[i] nm d := by
  have hne : newDocCount segs drops ≠ 0 :=
    Nat.ne_of_gt (Nat.zero_lt_of_lt (newNum_lt_newDocCount hrange hi hd hk))
  refine (C06_dv v mode segs drops hne nm).1 i hi d k hd ?_
  rw [C05_maps v mode segs drops, remapAll_spec segs drops i d hi hd, hk]

/-- C06 (doc values), as visits: a doc-value visit of a surviving document on
    the merged segment - with any legitimately obtained visit state (`Reach`,
    see `C03_visit_any_order`), any chunk size, any field list - returns what a
    visit of the document on its input segment returns. -/
theorem C06_dv_visit (v : Bool) (mode : Nat) (segs : List Seg) (drops : List (Option (List Nat)))
    (hne : newDocCount segs drops ≠ 0)
    (segOf : Nat → Seg) (tag cs : Nat) (htag : segOf tag = (mergeSegs v mode segs drops).1)
    (fields : List Name) (st : Option DvState) (hst : Dv.Reach segOf cs fields st)
    (i : Nat) (hi : i < segs.length) (d d' : Nat) (hd : d < segs[i].numDocs)
    (hmap : ((mergeSegs v mode segs drops).2.getD i []).getD d none = some d')
    (tag' cs' : Nat) :
    ((mergeSegs v mode segs drops).1.visitDocValues tag cs st fields d').2 =
      (segs[i].visitDocValues tag' cs' none fields d).2 := by
  have hnd : (mergeSegs v mode segs drops).1.numDocs ≠ 0 := by rw [mergeSegs_numDocs]; exact hne
  have hni : segs[i].numDocs ≠ 0 := Nat.ne_of_gt (Nat.zero_lt_of_lt hd)
  rw [← htag, Dv.visit_out segOf cs fields st hst.inv tag d', htag,
    Dv.visit_out (fun _ => segs[i]) cs' fields none trivial tag' d]
  apply List.flatMap_congr_mem
  intro n _
  rw [fieldOut_eq_dvOf _ hnd, fieldOut_eq_dvOf _ hni,
    (C06_dv v mode segs drops hne n).1 i hi d d' hd hmap]

/-- Every field record of the merge result, with its doc-value data read as a
    list (`none` as `[]`), is the concatenation over all inputs. -/
theorem mergeSegs_dv_data (v : Bool) (mode : Nat) (segs : List Seg) (drops : List (Option (List Nat)))
    (hne : newDocCount segs drops ≠ 0) (f : FieldM) (hf : f ∈ (mergeSegs v mode segs drops).1.fields) :
    f.dv.getD [] = (segs.zip (remapAll segs drops 0)).flatMap (dvPart f.name) := by
  rw [mergeSegs_eq v mode segs drops hne] at hf
  obtain ⟨nm, _, rfl⟩ := List.mem_map.1 hf
  exact mergedDv_getD nm _

/-- C06 (doc values, order): if in every input the doc-value data of every
    field is strictly ascending by document number, so is that of every field
    of the merge result (inputs in segment order, survivors of one input keep
    their order, numbers of different inputs do not interleave).  The reader
    (chunked binary search by document number) relies on it. -/
theorem C06_dv_ascending (v : Bool) (mode : Nat) (segs : List Seg) (drops : List (Option (List Nat)))
    (hne : newDocCount segs drops ≠ 0)
    (hasc : ∀ s ∈ segs, ∀ f ∈ s.loadedFields, ((f.dv.getD []).map (·.1)).Pairwise (· < ·)) :
    ∀ f ∈ (mergeSegs v mode segs drops).1.fields, ((f.dv.getD []).map (·.1)).Pairwise (· < ·) := by
  intro f hf
  rw [mergeSegs_dv_data v mode segs drops hne f hf, List.pairwise_map]
  refine pairwise_all_parts f.name _ (zip_mono segs drops) (zip_pairwise_sep segs drops) fun p hp => ?_
  rcases dvData_cases p.1 f.name with h | ⟨g, hg, h⟩
  · rw [h]; exact .nil
  · rw [h]; exact List.pairwise_map.1 (hasc p.1 (List.of_mem_zip hp).1 g hg)

/-- C06 (doc values, entries): every entry of the merged data carries a
    document number of the merged segment (given drop lists that name only
    existing documents, as in `C05_count`), and no entry has an empty value
    list if no input entry has. -/
theorem C06_dv_entries (v : Bool) (mode : Nat) (segs : List Seg) (drops : List (Option (List Nat)))
    (hrange : dropsInRange segs drops = true) (hne : newDocCount segs drops ≠ 0) :
    (∀ f ∈ (mergeSegs v mode segs drops).1.fields, ∀ p ∈ f.dv.getD [],
        p.1 < (mergeSegs v mode segs drops).1.numDocs) ∧
    ((∀ s ∈ segs, ∀ f ∈ s.loadedFields, ∀ p ∈ f.dv.getD [], p.2 ≠ []) →
      ∀ f ∈ (mergeSegs v mode segs drops).1.fields, ∀ p ∈ f.dv.getD [], p.2 ≠ []) := by
  refine ⟨?_, ?_⟩
  · intro f hf p hp
    rw [mergeSegs_dv_data v mode segs drops hne f hf] at hp
    obtain ⟨i, hi, d, hd, hmap⟩ := mem_all_parts hp
    rw [remapAll_spec segs drops i d hi hd] at hmap
    rw [mergeSegs_numDocs]
    exact newNum_lt_newDocCount hrange hi hd hmap
  · intro hin f hf p hp
    rw [mergeSegs_dv_data v mode segs drops hne f hf] at hp
    obtain ⟨q, hq, hpq⟩ := List.mem_flatMap.1 hp
    obtain ⟨e, he, _, h2⟩ := mem_dvMerge.1 hpq
    rw [h2]
    rcases dvData_cases q.1 f.name with h | ⟨g, hg, h⟩
    · rw [h] at he; cases he
    · exact hin q.1 (List.of_mem_zip hq).1 g hg e (h ▸ he)

/-- C06 (doc-value fields).  With at least one survivor (otherwise `mergeSegs`
    returns the bare `_id` segment), the merged segment has doc-value data
    under a name iff some input has doc-value data under that name - whether
    or not any of its documents survive, and whether or not the input has terms
    in the field. -/
theorem C06_dvfields (v : Bool) (mode : Nat) (segs : List Seg) (drops : List (Option (List Nat)))
    (hne : newDocCount segs drops ≠ 0) (nm : Name) :
    (∃ f, (mergeSegs v mode segs drops).1.field? nm = some f ∧ f.dv ≠ none) ↔
      ∃ s ∈ segs, ∃ f, s.field? nm = some f ∧ f.dv ≠ none := by
  rw [mergeSegs_field? v mode segs drops hne nm]
  by_cases hnm : nm ∈ mergedFieldNames segs
  · simp only [if_pos hnm, Option.some.injEq, exists_eq_left']
    refine (mergedDv_ne_none nm _).trans ⟨?_, ?_⟩
    · rintro ⟨p, hp, g, hg, hgdv⟩
      exact ⟨p.1, (List.of_mem_zip hp).1, g, hg, hgdv⟩
    · rintro ⟨s, hs, g, hg, hgdv⟩
      obtain ⟨i, hi, rfl⟩ := List.getElem_of_mem hs
      exact ⟨_, mem_zip_remapAll.2 ⟨i, hi, rfl⟩, g, hg, hgdv⟩
  · rw [if_neg hnm]
    constructor
    · rintro ⟨f', hf', _⟩; cases hf'
    · rintro ⟨s, hs, g, hg, _⟩
      rw [field?_none_of_not_merged hnm hs] at hg; cases hg

/-- The same for `VisitableDocValueFields` of the merged segment. -/
theorem C06_dvFieldNames (v : Bool) (mode : Nat) (segs : List Seg) (drops : List (Option (List Nat)))
    (hne : newDocCount segs drops ≠ 0) (nm : Name) :
    nm ∈ (mergeSegs v mode segs drops).1.dvFieldNames ↔
      ∃ s ∈ segs, ∃ f, s.field? nm = some f ∧ f.dv ≠ none := by
  rw [← C06_dvfields v mode segs drops hne nm, mergeSegs_field? v mode segs drops hne nm,
    mergeSegs_eq v mode segs drops hne]
  unfold Seg.dvFieldNames Seg.loadedFields
  rw [if_neg hne, if_neg hne]
  simp only [List.mem_map, List.mem_filter]
  constructor
  · rintro ⟨f, ⟨⟨n, hn, rfl⟩, hsome⟩, rfl⟩
    exact ⟨_, if_pos hn, Option.isSome_iff_ne_none.1 hsome⟩
  · rintro ⟨f, hf, hdv⟩
    by_cases hn : nm ∈ mergedFieldNames segs
    · rw [if_pos hn] at hf
      cases hf
      exact ⟨_, ⟨⟨nm, hn, rfl⟩, Option.isSome_iff_ne_none.2 hdv⟩, rfl⟩
    · rw [if_neg hn] at hf; cases hf

section FixD11

private def shapeN : Name := [103]          -- "g"

/-- Two documents; document 1 has term `x` in field `g`, with doc values. -/
private def gB : Seg :=
  { chunkMode := 1024, numDocs := 2,
    fields := [{ name := idName, terms := [([98], .oneHit 0 1), ([99], .oneHit 1 1)] },
               { name := shapeN, terms := [([120], .general [⟨1, 1, 1, []⟩])], dv := some [(1, [[120]])] }],
    stored := [⟨[98], []⟩, ⟨[99], []⟩] }

/-- One document; field `g` carries a doc value (an encoded shape, "hi") but
    NOT A SINGLE TERM: its dictionary is empty. -/
private def gA : Seg :=
  { chunkMode := 1024, numDocs := 1,
    fields := [{ name := idName, terms := [([97], .oneHit 0 1)] },
               { name := shapeN, dv := some [(0, [[0x68, 0x69]])] }],
    stored := [⟨[97], []⟩] }

/-- Fix D11.  `gA` is not "in focus" for field `g` (its dictionary of `g` is
    empty), yet its doc value arrives in the merged segment under the new
    number of its document (1; document 0 of `gB` is dropped, document 1 of `gB`
    becomes 0).  Before fix D11 the merge copied doc values only from inputs
    whose dictionary for the field is non-empty, and this value was LOST (the
    merged data was `[(0, [[120]])]`).  On the real code:
    /verif/corpus/regress/k1_shape_only_field_merge.script. -/
theorem C06_dv_fix_D11 :
    gA.dictTerms shapeN = [] ∧
    (mergeSegs false 1024 [gB, gA] [some [0]]).2 = [[none, some 0], [some 1]] ∧
    ((mergeSegs false 1024 [gB, gA] [some [0]]).1.field? shapeN).map (·.dv)
      = some (some [(0, [[120]]), (1, [[0x68, 0x69]])]) ∧
    dvOf (mergeSegs false 1024 [gB, gA] [some [0]]).1 shapeN 1 = [[0x68, 0x69]] ∧
    dvOf gA shapeN 0 = [[0x68, 0x69]] := by decide +kernel

/-- Also when the shape-only input is merged alone (a merge that only applies
    deletions) the field keeps its doc values, although no input is in focus. -/
example :
    ((mergeSegs false 1024 [gA] []).1.field? shapeN).map (fun f => (f.terms, f.dv))
      = some ([], some [(0, [[0x68, 0x69]])]) := by decide +kernel

/-- The theorems applied to this data. -/
example : dvOf (mergeSegs false 1024 [gB, gA] [some [0]]).1 shapeN 1 = dvOf gA shapeN 0 :=
  (C06_dv false 1024 [gB, gA] [some [0]] (by decide) shapeN).1 1 (by decide) 0 1 (by decide) (by decide +kernel)

example : dvOf (mergeSegs false 1024 [gB, gA] [some [0]]).1 shapeN 1 = dvOf gA shapeN 0 :=
  C06_dv_newNum false 1024 [gB, gA] [some [0]] (by decide) 1 0 1 (by decide) (by decide) (by decide) shapeN

end FixD11

/-! ### Non-vacuity: a built segment and a hand-written one -/

section Examples

private def tagN : Name := strBytes "tag"
private def geoN : Name := strBytes "geo"

/-- A batch of three documents: `tag` is a doc-value field with terms, `geo` a
    geo-shape doc-value field - document 0 has a term and a shape, document 1
    ONLY a shape (no tokens), document 2 nothing in `geo`. -/
private def exB : Batch :=
  [ { id := [97], fields := [
        { name := idName, stored := true, val := [97], toks := [⟨[97], 1, []⟩] },
        { name := tagN, dv := true, len := 2, toks := [⟨[120], 1, []⟩, ⟨[121], 1, []⟩] },
        { name := geoN, dv := true, len := 1, toks := [⟨[119], 1, []⟩], shape := some [1, 2] } ] },
    { id := [98], fields := [
        { name := idName, stored := true, val := [98], toks := [⟨[98], 1, []⟩] },
        { name := geoN, dv := true, shape := some [3, 4] } ] },
    { id := [99], fields := [
        { name := idName, stored := true, val := [99], toks := [⟨[99], 1, []⟩] },
        { name := tagN, dv := true, len := 1, toks := [⟨[122], 1, []⟩] } ] } ]

private def segX : Seg := buildSeg false 1024 exB

/-- Hand-written: two documents, `geo` with doc values only (no terms), `tag`
    without doc-value data. -/
private def segY : Seg :=
  { chunkMode := 1024, numDocs := 2,
    fields := [{ name := idName, terms := [([100], .oneHit 0 1), ([101], .oneHit 1 1)] },
               { name := geoN, dv := some [(0, [[5, 6]]), (1, [[7]])] },
               { name := tagN, terms := [([120], .oneHit 1 1)] }],
    stored := [⟨[100], []⟩, ⟨[101], []⟩] }

/-- Drop document 0 of `segX` and document 0 of `segY`. -/
private def exDrops : List (Option (List Nat)) := [some [0], some [0]]

/-- the built segment's doc-value data -/
example : (segX.field? tagN).map (·.dv) = some (some [(0, [[120], [121]]), (2, [[122]])]) ∧
    (segX.field? geoN).map (fun f => (f.terms.map (·.1), f.dv))
      = some ([[119]], some [(0, [[119], [1, 2]]), (1, [[3, 4]])]) := by decide +kernel

/-- hypotheses of `C06_dv`, `C06_dv_newNum`, `C06_dv_ascending`, `C06_dv_entries` -/
example : newDocCount [segX, segY] exDrops ≠ 0 ∧ dropsInRange [segX, segY] exDrops = true := by decide +kernel
example : ∀ s ∈ [segX, segY], ∀ f ∈ s.loadedFields, ((f.dv.getD []).map (·.1)).Pairwise (· < ·) := by
  decide +kernel
example : ∀ s ∈ [segX, segY], ∀ f ∈ s.loadedFields, ∀ p ∈ f.dv.getD [], p.2 ≠ [] := by decide +kernel

/-- the maps, and the merged doc-value data: the only surviving `geo` value of
    `segX` is the shape of its term-less document 1 -/
example : (mergeSegs false 1024 [segX, segY] exDrops).2 = [[none, some 0, some 1], [none, some 2]] ∧
    ((mergeSegs false 1024 [segX, segY] exDrops).1.field? geoN).map (fun f => (f.terms.map (·.1), f.dv))
      = some ([], some [(0, [[3, 4]]), (2, [[7]])]) ∧
    ((mergeSegs false 1024 [segX, segY] exDrops).1.field? tagN).map (·.dv) = some (some [(1, [[122]])]) ∧
    (mergeSegs false 1024 [segX, segY] exDrops).1.dvFieldNames = [geoN, tagN] := by decide +kernel

/-- conclusion (1) of `C06_dv`, evaluated for every survivor and both fields
    (and a name that is no field) -/
example : ∀ nm ∈ [geoN, tagN, idName, [1]], ∀ p ∈ [(0, 1, 0), (0, 2, 1), (1, 1, 2)],
    dvOf (mergeSegs false 1024 [segX, segY] exDrops).1 nm p.2.2 = dvOf ([segX, segY].getD p.1 segY) nm p.2.1 := by
  decide +kernel

example : dvOf (mergeSegs false 1024 [segX, segY] exDrops).1 geoN 0 = [[3, 4]] ∧
    dvOf segX geoN 1 = [[3, 4]] ∧
    dvOf (mergeSegs false 1024 [segX, segY] exDrops).1 geoN 1 = [] ∧ dvOf segX geoN 2 = [] ∧
    dvOf (mergeSegs false 1024 [segX, segY] exDrops).1 tagN 2 = [] ∧ dvOf segY tagN 1 = [] := by decide +kernel

/-- the theorem applied -/
example : dvOf (mergeSegs false 1024 [segX, segY] exDrops).1 geoN 2 = dvOf segY geoN 1 :=
  C06_dv_newNum false 1024 [segX, segY] exDrops (by decide +kernel) 1 1 2 (by decide) (by decide +kernel)
    (by decide +kernel) geoN

/-- a visit of new document 0 on the merged segment = a visit of document 1 on `segX` -/
example :
    ((mergeSegs false 1024 [segX, segY] exDrops).1.visitDocValues 0 2 none [geoN, tagN, geoN] 0).2
      = [(geoN, [3, 4]), (geoN, [3, 4])] ∧
    (segX.visitDocValues 7 1024 none [geoN, tagN, geoN] 1).2 = [(geoN, [3, 4]), (geoN, [3, 4])] := by
  decide +kernel

end Examples

end Zap

#print axioms Zap.fieldOut_eq_dvOf
#print axioms Zap.C06_dv
#print axioms Zap.C06_dv_newNum
#print axioms Zap.C06_dv_visit
#print axioms Zap.mergeSegs_dv_data
#print axioms Zap.C06_dv_ascending
#print axioms Zap.C06_dv_entries
#print axioms Zap.C06_dvfields
#print axioms Zap.C06_dvFieldNames
#print axioms Zap.C06_dv_fix_D11
