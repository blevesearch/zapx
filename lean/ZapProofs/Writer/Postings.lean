/-
  The freq/norm and location streams written by the per-term loop of `writeDicts` decode
  (list-level twin of Layout's entry decoder) to the entries that went in; the shape of a written
  stream, what `writeAt` leaves of it, and where it ends.
-/
import ZapProofs.Writer.WalkTable
import ZapProofs.Codec.IntCoder
import ZapProofs.Writer.Uv

namespace Zap.Writer.Post
open Zap.Codec Zap.Writer.Walk Zap.Writer.Uv

theorem readChunksL_table (offs : List Nat) (data : Bytes) (hn : offs.length < 2 ^ 64)
    (ho : ∀ o ∈ offs, o < 2 ^ 64) (hnd : nondec offs = true) (hlast : offs.getLastD 0 ≤ data.length) :
    readChunksL (putUvarint offs.length ++ putUvarints offs ++ data) = some (offs, data) := by
  unfold readChunksL
  rw [List.append_assoc, uv64_putUvarint _ hn]
  simp only
  rw [readN64_putUvarints offs ho]
  simp only
  rw [hnd, if_neg (by simp), if_neg (Nat.not_lt.mpr hlast)]

theorem readChunksL_stream (cs maxDoc : Nat) (adds : List (Nat × List Nat))
    (hmono : DocsMono adds) (hmax : ∀ a ∈ adds, a.1 ≤ maxDoc)
    (hsz : (intCoderEncode cs maxDoc adds).length < 2 ^ 64) (post : Bytes) :
    readChunksL (intCoderEncode cs maxDoc adds ++ post)
      = some (endOffsets ((segsOf cs maxDoc adds).map List.length),
              (segsOf cs maxDoc adds).flatten ++ post) := by
  rw [stream_shape cs maxDoc adds hmono hmax] at hsz ⊢
  have hlen : (endOffsets ((segsOf cs maxDoc adds).map List.length)).length = maxDoc / cs + 1 := by
    rw [endOffsets_length, List.length_map, segsOf_length]
  have hle := mem_endOffsets_le ((segsOf cs maxDoc adds).map List.length)
  have hlast := getLastD_endOffsets ((segsOf cs maxDoc adds).map List.length)
    (List.ne_nil_of_length_pos (by rw [List.length_map, segsOf_length]; exact Nat.succ_pos _))
  rw [sumList_map_length_flatten] at hle hlast
  have hge := putUvarints_length_ge (endOffsets ((segsOf cs maxDoc adds).map List.length))
  simp only [List.length_append] at hsz
  rw [← hlen, List.append_assoc]
  exact readChunksL_table _ _
    (Nat.lt_of_le_of_lt (Nat.le_trans hge (Nat.le_trans (Nat.le_add_left _ _) (Nat.le_add_right _ _))) hsz)
    (fun o ho => Nat.lt_of_le_of_lt (Nat.le_trans (hle o ho) (Nat.le_add_left _ _)) hsz)
    (nondec_iff_pairwise.mpr (pairwise_endOffsets _))
    (by rw [hlast, List.length_append]; exact Nat.le_add_right _ _)

/-! Both streams of a postings list are written by a loop over items (postings) that makes all the
`Add` calls of one item (`addsOf`) with that item's document number (`hdoc`). -/

section Items
variable {α β : Type} (doc : β → Nat) (addsOf : β → List (Nat × List Nat))

def blkOf (addsOf : β → List (Nat × List Nat)) (x : β) : Bytes := putUvarints ((addsOf x).flatMap (·.2))

variable (hdoc : ∀ x, ∀ a ∈ addsOf x, a.1 = doc x)
include hdoc

theorem docsMono_flatMap (xs : List β) (h : xs.Pairwise (fun a b => doc a ≤ doc b)) :
    DocsMono (xs.flatMap addsOf) := by
  unfold DocsMono
  induction xs with
  | nil => simp
  | cons x xs ih =>
    have hpw := List.pairwise_cons.mp h
    rw [List.flatMap_cons, List.pairwise_append]
    refine ⟨?_, ih hpw.2, ?_⟩
    · rw [List.pairwise_iff_forall_sublist]
      intro a b hab
      rw [hdoc x a (hab.subset (by simp)), hdoc x b (hab.subset (by simp))]
      exact Nat.le_refl _
    · intro a ha b hb
      obtain ⟨y, hy, hb'⟩ := List.mem_flatMap.mp hb
      rw [hdoc x a ha, hdoc y b hb']
      exact hpw.1 y hy

theorem max_flatMap (xs : List β) (maxDoc : Nat) (h : ∀ x ∈ xs, doc x ≤ maxDoc) :
    ∀ a ∈ xs.flatMap addsOf, a.1 ≤ maxDoc := by
  intro a ha
  obtain ⟨x, hx, ha'⟩ := List.mem_flatMap.mp ha
  rw [hdoc x a ha']
  exact h x hx

theorem chunkEnc_flatMap (cs : Nat) (xs : List β) (k : Nat) :
    chunkEnc cs (xs.flatMap addsOf) k = segOf cs doc (blkOf addsOf) xs k := by
  unfold chunkEnc segOf chunkOf
  induction xs with
  | nil => rfl
  | cons x xs ih =>
    rw [List.flatMap_cons, List.filter_append, List.flatMap_append, putUvarints_append, ih]
    by_cases hk : doc x / cs = k
    · rw [List.filter_cons_of_pos (by simpa using hk), List.flatMap_cons, List.filter_eq_self.mpr]
      · rfl
      · intro a ha
        rw [hdoc x a ha]
        simpa using hk
    · rw [List.filter_cons_of_neg (by simpa using hk), List.filter_eq_nil_iff.mpr]
      · rfl
      · intro a ha
        rw [hdoc x a ha]
        simpa using hk

theorem walkChunksL_items (cs maxDoc : Nat) (hcs : 0 < cs) (val : β → α)
    (dec : Nat → Bytes → Option (α × Bytes)) (xs : List β)
    (hdec : ∀ x ∈ xs, ∀ r, dec (doc x) (blkOf addsOf x ++ r) = some (val x, r))
    (hmono : xs.Pairwise (fun a b => doc a ≤ doc b)) (hmax : ∀ x ∈ xs, doc x ≤ maxDoc)
    (hsz : (intCoderEncode cs maxDoc (xs.flatMap addsOf)).length < 2 ^ 64) (post : Bytes) :
    walkChunksL cs (intCoderEncode cs maxDoc (xs.flatMap addsOf) ++ post) (xs.map doc) dec
      = some (xs.map val) := by
  unfold walkChunksL
  rw [if_neg (Nat.ne_of_gt hcs), readChunksL_stream cs maxDoc _ (docsMono_flatMap doc addsOf hdoc xs hmono)
    (max_flatMap doc addsOf hdoc xs maxDoc hmax) hsz post]
  simp only
  apply walkL_roundtrip (table_of_endOffsets _ post) cs doc (blkOf addsOf) val dec xs
  · rw [segsOf_length]; exact Nat.succ_pos _
  · intro k hk
    rw [segsOf_getElem]
    exact chunkEnc_flatMap doc addsOf hdoc cs xs k
  · exact hdec
  · exact hmono
  · intro x hx
    rw [segsOf_length]
    exact Nat.lt_succ_of_le (Nat.div_le_div_right (hmax x hx))

end Items

def freqVal (e : Entry) : Nat × Nat × Bool := (e.freq, e.norm, hasLocs e)

theorem freqAdds_eq (es : List Entry) : freqAdds es = es.flatMap (fun e => [(e.doc, freqVals e)]) :=
  List.map_eq_flatMap

theorem encodeFreqHasLocs_lt (f : Nat) (b : Bool) (hf : f < 2 ^ 63) :
    Gen.encodeFreqHasLocs f b < 2 ^ 64 := by
  rw [encodeFreqHasLocs_eq f b hf]
  cases b <;> simp <;> omega

theorem decFreqL_blk (e : Entry) (hf : e.freq < 2 ^ 63) (hn64 : e.norm < 2 ^ 64)
    (hn : e.freq = 0 → e.norm = 0)
    (r : Bytes) : decFreqL e.doc (putUvarints (freqVals e) ++ r) = some (freqVal e, r) := by
  unfold decFreqL freqVals freqVal
  by_cases h0 : e.freq = 0
  · rw [if_pos h0, putUvarints_cons, putUvarints_nil, List.append_nil,
      uv64_putUvarint _ (encodeFreqHasLocs_lt _ _ hf)]
    simp only
    rw [freqHasLocs_roundtrip _ _ hf]
    simp [h0, hn h0]
  · rw [if_neg h0, putUvarints_cons, putUvarints_cons, putUvarints_nil, List.append_nil,
      List.append_assoc, uv64_putUvarint _ (encodeFreqHasLocs_lt _ _ hf)]
    simp only
    rw [freqHasLocs_roundtrip _ _ hf]
    simp only [ne_eq, h0, not_false_eq_true, if_true]
    rw [uv64_putUvarint _ hn64]

theorem freqAdds_mono (es : List Entry) (h : es.Pairwise (fun a b => a.doc < b.doc)) :
    DocsMono (freqAdds es) := by
  rw [freqAdds_eq]
  exact docsMono_flatMap Entry.doc _ (by simp) es (h.imp Nat.le_of_lt)

theorem freqAdds_max (es : List Entry) (maxDoc : Nat) (h : ∀ e ∈ es, e.doc ≤ maxDoc) :
    ∀ a ∈ freqAdds es, a.1 ≤ maxDoc := by
  rw [freqAdds_eq]
  exact max_flatMap Entry.doc _ (by simp) es maxDoc h

theorem freq_walk (cs maxDoc : Nat) (es : List Entry) (hcs : 0 < cs)
    (hasc : es.Pairwise (fun a b => a.doc < b.doc)) (hmax : ∀ e ∈ es, e.doc ≤ maxDoc)
    (hf : ∀ e ∈ es, e.freq < 2 ^ 63) (hn64 : ∀ e ∈ es, e.norm < 2 ^ 64)
    (hn : ∀ e ∈ es, e.freq = 0 → e.norm = 0)
    (hsz : (encodeFreqNorm cs maxDoc es).length < 2 ^ 64) (post : Bytes) :
    walkChunksL cs (encodeFreqNorm cs maxDoc es ++ post) (es.map (·.doc)) decFreqL
      = some (es.map freqVal) := by
  unfold encodeFreqNorm at hsz ⊢
  rw [freqAdds_eq] at hsz ⊢
  refine walkChunksL_items Entry.doc _ (by simp) cs maxDoc hcs freqVal decFreqL es ?_
    (hasc.imp Nat.le_of_lt) hmax hsz post
  intro e he r
  rw [blkOf, List.flatMap_singleton]
  exact decFreqL_blk e (hf e he) (hn64 e he) (hn e he) r

def locVals (ls : List MLoc) : List Nat := ls.flatMap (fun l => locHead l ++ l.ap)

theorem totalUvarintBytes_eq (vs : List Nat) : totalUvarintBytes vs = (putUvarints vs).length := by
  unfold totalUvarintBytes putUvarints
  rw [List.length_flatMap]
  congr 1
  apply List.map_congr_left
  intro x _
  exact numUvarintBytes_eq x

theorem numLocsBytes_eq (ls : List MLoc) : numLocsBytes ls = (putUvarints (locVals ls)).length := by
  unfold numLocsBytes locVals putUvarints
  rw [List.flatMap_assoc, List.length_flatMap]
  refine congrArg List.sum ?_
  apply List.map_congr_left
  intro l _
  exact totalUvarintBytes_eq _

theorem ap_le_numLocsBytes (ls : List MLoc) (l : MLoc) (h : l ∈ ls) : l.ap.length ≤ numLocsBytes ls := by
  rw [numLocsBytes_eq]
  refine Nat.le_trans ?_ (putUvarints_length_ge _)
  have h1 : (locHead l ++ l.ap).Sublist (locVals ls) :=
    List.sublist_flatten_of_mem (List.mem_map_of_mem (f := fun l => locHead l ++ l.ap) h)
  exact ((List.sublist_append_right _ _).trans h1).length_le

theorem length_le_numLocsBytes (ls : List MLoc) : ls.length ≤ numLocsBytes ls := by
  induction ls with
  | nil => simp
  | cons x ls ih =>
    unfold numLocsBytes at ih ⊢
    simp only [List.map_cons, List.sum_cons, List.length_cons]
    rw [totalUvarintBytes_eq, putUvarints_append, List.length_append]
    have := putUvarints_length_ge (locHead x)
    have h5 : (locHead x).length = 5 := rfl
    omega

def LocsFit (ls : List MLoc) : Prop := ∀ l ∈ ls, ∀ v ∈ locHead l ++ l.ap, v < 2 ^ 64

theorem readLoc_put (maxAp : Nat) (l : MLoc) (h : l.ap.length ≤ maxAp)
    (hfit : ∀ v ∈ locHead l ++ l.ap, v < 2 ^ 64) (r : Bytes) :
    readLoc maxAp (putUvarints (locHead l ++ l.ap) ++ r) = some (l, r) := by
  unfold readLoc
  rw [putUvarints_append, List.append_assoc]
  have h5 := readN64_putUvarints (locHead l) (fun v hv => hfit v (by simp [hv]))
    (putUvarints l.ap ++ r)
  have hl : (locHead l).length = 5 := rfl
  rw [hl] at h5
  rw [h5]
  simp only [locHead]
  rw [if_neg (Nat.not_lt.mpr h), readN64_putUvarints _ (fun v hv => hfit v (by simp [hv]))]

theorem parseLocs_put (maxAp : Nat) (ls : List MLoc) (hap : ∀ l ∈ ls, l.ap.length ≤ maxAp)
    (hfit : LocsFit ls) :
    ∀ fuel, ls.length ≤ fuel → parseLocs maxAp fuel (putUvarints (locVals ls)) = some ls := by
  induction ls with
  | nil => intro fuel _; cases fuel <;> simp [parseLocs, locVals, putUvarints]
  | cons l ls ih =>
    intro fuel hf
    cases fuel with
    | zero => exact absurd hf (Nat.not_succ_le_zero _)
    | succ fuel =>
      have hv : locVals (l :: ls) = (locHead l ++ l.ap) ++ locVals ls := by simp [locVals]
      rw [hv, putUvarints_append]
      have hne : putUvarints (locHead l ++ l.ap) ++ putUvarints (locVals ls) ≠ [] := fun h =>
        List.cons_ne_nil _ _ ((putUvarints_eq_nil _).mp (List.append_eq_nil_iff.mp h).1)
      simp only [parseLocs]
      rw [if_neg hne, readLoc_put maxAp l (hap l (by simp)) (hfit l (by simp))]
      simp only
      rw [ih (fun x hx => hap x (by simp [hx])) (fun x hx => hfit x (by simp [hx])) fuel
        (Nat.le_of_succ_le_succ hf)]
      rfl

theorem decLocsL_blk (e : Entry) (hnb : numLocsBytes e.locs < 2 ^ 64) (hfit : LocsFit e.locs)
    (r : Bytes) :
    decLocsL e.doc (putUvarints (numLocsBytes e.locs :: locVals e.locs) ++ r) = some (e.locs, r) := by
  unfold decLocsL
  rw [putUvarints_cons, List.append_assoc, uv64_putUvarint _ hnb]
  simp only
  have hlen := numLocsBytes_eq e.locs
  rw [if_neg (by simp only [List.length_append]; omega)]
  rw [List.take_append_of_le_length (Nat.le_of_eq hlen), hlen, List.take_length, ← hlen,
    parseLocs_put _ e.locs (fun l hl => ap_le_numLocsBytes e.locs l hl) hfit _
      (length_le_numLocsBytes e.locs)]
  simp only
  rw [hlen, List.drop_left]

theorem locAddsOf_docs (e : Entry) : ∀ a ∈ locAddsOf e, a.1 = e.doc := by
  intro a ha
  unfold locAddsOf at ha
  by_cases h : e.locs.isEmpty
  · simp [h] at ha
  · simp only [h, Bool.false_eq_true, if_false, List.mem_cons, List.mem_flatMap] at ha
    rcases ha with rfl | ⟨l, _, hl⟩
    · rfl
    · simp at hl
      rcases hl with rfl | rfl <;> rfl

theorem locAddsOf_vals (e : Entry) :
    (locAddsOf e).flatMap (·.2) = if hasLocs e then numLocsBytes e.locs :: locVals e.locs else [] := by
  unfold locAddsOf hasLocs
  by_cases h : e.locs.isEmpty
  · simp [h]
  · simp only [h, Bool.false_eq_true, if_false, Bool.not_false, if_true, List.flatMap_cons,
      List.cons_append, List.nil_append, List.cons.injEq, true_and]
    rw [List.flatMap_assoc]
    unfold locVals
    congr 1
    funext l
    simp

theorem locAdds_eq (es : List Entry) : locAdds es = (es.filter hasLocs).flatMap locAddsOf := by
  unfold locAdds
  induction es with
  | nil => rfl
  | cons e es ih =>
    by_cases h : hasLocs e
    · rw [List.filter_cons_of_pos h, List.flatMap_cons, List.flatMap_cons, ih]
    · rw [List.filter_cons_of_neg h, List.flatMap_cons, ih]
      have : locAddsOf e = [] := by
        unfold locAddsOf
        rw [if_pos (by simpa [hasLocs] using h)]
      rw [this, List.nil_append]

theorem locAdds_mono (es : List Entry) (h : es.Pairwise (fun a b => a.doc < b.doc)) :
    DocsMono (locAdds es) := by
  rw [locAdds_eq]
  exact docsMono_flatMap Entry.doc _ locAddsOf_docs _
    ((h.imp Nat.le_of_lt).sublist List.filter_sublist)

theorem locAdds_max (es : List Entry) (maxDoc : Nat) (h : ∀ e ∈ es, e.doc ≤ maxDoc) :
    ∀ a ∈ locAdds es, a.1 ≤ maxDoc := by
  rw [locAdds_eq]
  exact max_flatMap Entry.doc _ locAddsOf_docs _ maxDoc (fun e he => h e (List.mem_filter.mp he).1)

theorem loc_walk (cs maxDoc : Nat) (es : List Entry) (hcs : 0 < cs)
    (hasc : es.Pairwise (fun a b => a.doc < b.doc)) (hmax : ∀ e ∈ es, e.doc ≤ maxDoc)
    (hnb : ∀ e ∈ es, numLocsBytes e.locs < 2 ^ 64) (hfit : ∀ e ∈ es, LocsFit e.locs)
    (hsz : (encodeLocs cs maxDoc es).length < 2 ^ 64) (post : Bytes) :
    walkChunksL cs (encodeLocs cs maxDoc es ++ post) ((es.filter hasLocs).map (·.doc)) decLocsL
      = some ((es.filter hasLocs).map (·.locs)) := by
  unfold encodeLocs at hsz ⊢
  rw [locAdds_eq] at hsz ⊢
  refine walkChunksL_items Entry.doc _ locAddsOf_docs cs maxDoc hcs Entry.locs decLocsL _ ?_
    ((hasc.imp Nat.le_of_lt).sublist List.filter_sublist)
    (fun e he => hmax e (List.mem_filter.mp he).1) hsz post
  intro e he r
  obtain ⟨he, hl⟩ := List.mem_filter.mp he
  rw [blkOf, locAddsOf_vals, if_pos hl]
  exact decLocsL_blk e (hnb e he) (hfit e he) r

theorem zipLocs_roundtrip (es : List Entry) :
    zipLocs (es.map (fun e => (e.doc, freqVal e))) ((es.filter hasLocs).map (·.locs)) = some es := by
  induction es with
  | nil => rfl
  | cons e es ih =>
    unfold freqVal at ih ⊢
    by_cases hl : hasLocs e
    · rw [List.filter_cons_of_pos hl]
      simp only [List.map_cons, hl, zipLocs, ih]
      rfl
    · rw [List.filter_cons_of_neg hl]
      obtain ⟨doc, freq, norm, locs⟩ := e
      have hnil : locs = [] := by simpa [hasLocs] using hl
      subst hnil
      have hl' : hasLocs { doc := doc, freq := freq, norm := norm, locs := [] } = false := rfl
      simp only [List.map_cons, hl', zipLocs, ih]
      rfl

theorem locDocs_eq (es : List Entry) :
    ((es.map (fun e => (e.doc, freqVal e))).filter (·.2.2.2)).map (·.1)
      = (es.filter hasLocs).map (·.doc) := by
  rw [List.filter_map, List.map_map]
  rfl

theorem filter_hasLocs_nil (es : List Entry) (h : ∀ e ∈ es, e.locs = []) : es.filter hasLocs = [] := by
  rw [List.filter_eq_nil_iff]
  intro e he
  simp [hasLocs, h e he]

theorem coderFinal_eq_put (cs maxDoc : Nat) (adds : List (Nat × List Nat)) :
    coderFinal cs maxDoc adds = putUvarints (adds.flatMap (·.2)) := by
  unfold coderFinal IntCoder.close
  simp only
  rw [foldl_final_buf]
  simp [IntCoder.new]

theorem locStream?_eq (cs maxDoc : Nat) (es : List Entry) :
    locStream? cs maxDoc es
      = if ∀ e ∈ es, e.locs = [] then none else some (encodeLocs cs maxDoc es) := by
  unfold locStream?
  have hiff : coderFinal cs maxDoc (locAdds es) = [] ↔ ∀ e ∈ es, e.locs = [] := by
    rw [coderFinal_eq_put, putUvarints_eq_nil]
    unfold locAdds
    rw [List.flatMap_assoc, List.flatMap_eq_nil_iff]
    apply forall_congr'
    intro e
    apply imp_congr_right
    intro _
    rw [locAddsOf_vals]
    cases h : e.locs <;> simp [hasLocs, h]
  by_cases h : ∀ e ∈ es, e.locs = []
  · rw [if_pos h, if_pos (hiff.mpr h)]
  · rw [if_neg h, if_neg (fun h' => h (hiff.mp h'))]

theorem coderFinal_freqAdds_ne_nil (cs maxDoc : Nat) (es : List Entry) (hne : es ≠ []) :
    coderFinal cs maxDoc (freqAdds es) ≠ [] := by
  rw [coderFinal_eq_put, Ne, putUvarints_eq_nil]
  cases es with
  | nil => contradiction
  | cons e es =>
    simp only [freqAdds, List.map_cons, List.flatMap_cons, freqVals]
    by_cases h : e.freq = 0 <;> simp [h]

/-- `file.length - data.length + offs.getLastD 0` is `Chunks.endAbs`, the end of the stream that the
    adjacency checks of `decPostings` compare, in terms of what `readChunksL` returns
    (`LP.walkChunksA_sim`): a written stream ends where its table says. -/
theorem stream_endAbs (file : Bytes) (pos cs maxDoc : Nat) (adds : List (Nat × List Nat))
    (hmono : DocsMono adds) (hmax : ∀ a ∈ adds, a.1 ≤ maxDoc)
    (hsz : (intCoderEncode cs maxDoc adds).length < 2 ^ 64) (post : Bytes)
    (hb : file.drop pos = intCoderEncode cs maxDoc adds ++ post) (offs : List Nat) (data : Bytes)
    (h : readChunksL (file.drop pos) = some (offs, data)) :
    file.length - data.length + offs.getLastD 0 = pos + (intCoderEncode cs maxDoc adds).length := by
  rw [hb, readChunksL_stream cs maxDoc adds hmono hmax hsz post] at h
  simp only [Option.some.injEq, Prod.mk.injEq] at h
  obtain ⟨rfl, rfl⟩ := h
  have hl := congrArg List.length hb
  rw [getLastD_endOffsets _ (List.ne_nil_of_length_pos (by
    rw [List.length_map, segsOf_length]
    exact Nat.succ_pos _)), sumList_map_length_flatten]
  rw [stream_shape cs maxDoc adds hmono hmax] at hl ⊢
  simp only [List.length_append, List.length_drop] at hl ⊢
  have := putUvarint_length_pos (maxDoc / cs + 1)
  omega

end Zap.Writer.Post
