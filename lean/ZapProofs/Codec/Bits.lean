/-
  ZapProofs.Codec.Bits: a few facts about bit operations on `Nat` (a field of a word, a packed
  pair), and with them one arithmetic normal form for each machine-generated pure function of
  `Zap.Gen` (ZapModel/Gen/Pure.lean), from which the round trips, tags and orders are read off.
-/
import ZapModel.Gen.Pure

namespace Zap.Codec

/-! ### the constants of the generated code, as powers of two -/

theorem u64_eq : Gen.u64 = 2 ^ 64 := rfl

theorem u32_eq : Gen.u32 = 2 ^ 32 := rfl

theorem mask31_eq : Gen.mask31Bits = 2 ^ 31 - 1 := rfl

theorem tag1Hit_shl : Gen.FSTValEncoding1Hit = 2 ^ 32 <<< 31 := rfl

theorem tagMask_eq : Gen.FSTValEncodingMask = (2 ^ 2 - 1) * 2 ^ 62 := rfl

/-! ### fields of a word, packed pairs

  The proofs below rewrite with these: `omega` on a goal with `/`, `%` and large literals is slow
  to check. -/

theorem mod_two_pow_lt (x i : Nat) : x % 2 ^ i < 2 ^ i := Nat.mod_lt _ (Nat.two_pow_pos i)

theorem mod_u64 {a : Nat} (h : a < 2 ^ 64) : a % Gen.u64 = a := Nat.mod_eq_of_lt h

theorem shl_mod_u64 (a i j : Nat) (h : a < 2 ^ j) (hj : j + i ≤ 64) :
    (a <<< i) % Gen.u64 = a <<< i := by
  apply mod_u64
  rw [Nat.shiftLeft_eq]
  apply Nat.lt_of_lt_of_le (Nat.mul_lt_mul_of_pos_right h (Nat.two_pow_pos i))
  rw [← Nat.pow_add]
  exact Nat.pow_le_pow_right (by decide) hj

theorem two_pow_or (i b : Nat) (h : b < 2 ^ i) : 2 ^ i ||| b = 2 ^ i + b := by
  have := Nat.two_pow_add_eq_or_of_lt h 1
  rw [Nat.mul_one] at this
  exact this.symm

theorem and_mul_two_pow (x m i : Nat) : x &&& (m * 2 ^ i) = (x / 2 ^ i &&& m) * 2 ^ i := by
  have h := Nat.div_add_mod (x &&& (m * 2 ^ i)) (2 ^ i)
  rw [Nat.and_div_two_pow, Nat.and_mod_two_pow, Nat.mul_div_cancel _ (Nat.two_pow_pos i),
    Nat.mul_mod_left, Nat.and_zero, Nat.add_zero, Nat.mul_comm] at h
  exact h.symm

theorem and_bits (x k i : Nat) : x &&& ((2 ^ k - 1) * 2 ^ i) = (x / 2 ^ i % 2 ^ k) * 2 ^ i := by
  rw [and_mul_two_pow, Nat.and_two_pow_sub_one_eq_mod]

/-- A packed pair `a * k + b` with `b < k`; its other half is core's `Nat.mul_add_mod_of_lt`. -/
theorem pack_div (a b k : Nat) (h : b < k) : (a * k + b) / k = a := by
  rw [Nat.add_comm, Nat.add_mul_div_right _ _ (Nat.zero_lt_of_lt h), Nat.div_eq_of_lt h,
    Nat.zero_add]

theorem pack_lt_of_lt {a a' b k : Nat} (b' : Nat) (h : a < a') (hb : b < k) :
    a * k + b < a' * k + b' :=
  calc a * k + b < a * k + k := Nat.add_lt_add_left hb _
    _ = (a + 1) * k := (Nat.succ_mul a k).symm
    _ ≤ a' * k := Nat.mul_le_mul_right k h
    _ ≤ a' * k + b' := Nat.le_add_right _ _

theorem pack_lt_iff (a b a' b' k : Nat) (hb : b < k) (hb' : b' < k) :
    a * k + b < a' * k + b' ↔ a < a' ∨ (a = a' ∧ b < b') := by
  constructor
  · intro h
    rcases Nat.lt_trichotomy a a' with h1 | rfl | h1
    · exact .inl h1
    · exact .inr ⟨rfl, Nat.lt_of_add_lt_add_left h⟩
    · exact absurd h (Nat.lt_asymm (pack_lt_of_lt b h1 hb'))
  · rintro (h1 | ⟨rfl, h2⟩)
    · exact pack_lt_of_lt b' h1 hb
    · exact Nat.add_lt_add_left h2 _

theorem div_two_pow_add (x i j : Nat) : x / 2 ^ (i + j) = x / 2 ^ i / 2 ^ j := by
  rw [Nat.pow_add, Nat.div_div_eq_div_mul]

theorem mask31_and (x : Nat) : Gen.mask31Bits &&& x = x % 2 ^ 31 := by
  rw [mask31_eq, Nat.and_comm, Nat.and_two_pow_sub_one_eq_mod]

theorem and_topmask (x : Nat) :
    x &&& Gen.FSTValEncodingMask = ((x / 2 ^ 62) % 4) * 2 ^ 62 := by
  rw [tagMask_eq, and_bits]

/-! ### posting.go: the 1-hit encoding of an FST value -/

/-- A packed pair with base `2 ^ 31`: the doc number below, and above it the norm bits under
    bit 32 of the high part, which is bit 63 of the word (`FSTValEncoding1Hit`). -/
theorem encode1Hit_pack (d n : Nat) :
    Gen.FSTValEncode1Hit d n = (2 ^ 32 + n % 2 ^ 31) * 2 ^ 31 + d % 2 ^ 31 := by
  unfold Gen.FSTValEncode1Hit
  rw [mask31_and, mask31_and, tag1Hit_shl,
    shl_mod_u64 _ 31 31 (mod_two_pow_lt n 31) (by decide),
    ← Nat.shiftLeft_or_distrib,
    two_pow_or 32 _ (Nat.lt_trans (mod_two_pow_lt n 31) (by decide)),
    ← Nat.shiftLeft_add_eq_or_of_lt (mod_two_pow_lt d 31), Nat.shiftLeft_eq]

theorem decode1Hit_eq (v : Nat) : Gen.FSTValDecode1Hit v = (v % 2 ^ 31, v / 2 ^ 31 % 2 ^ 31) := by
  unfold Gen.FSTValDecode1Hit
  rw [mask31_and, mask31_and, Nat.shiftRight_eq_div_pow]

theorem decode_encode_1hit (doc norm : Nat) :
    Gen.FSTValDecode1Hit (Gen.FSTValEncode1Hit doc norm) = (doc % 2 ^ 31, norm % 2 ^ 31) := by
  rw [decode1Hit_eq, encode1Hit_pack, Nat.mul_add_mod_of_lt (mod_two_pow_lt doc 31),
    pack_div _ _ _ (mod_two_pow_lt doc 31), Nat.pow_succ' (n := 31),
    Nat.mul_add_mod_of_lt (mod_two_pow_lt norm 31)]

theorem under32Bits_iff (x : Nat) : Gen.under32Bits x = true ↔ x < 2 ^ 31 := by
  unfold Gen.under32Bits
  rw [decide_eq_true_iff, mask31_eq]
  omega

theorem general_tagged (off : Nat) (h : off < 2 ^ 62) :
    off &&& Gen.FSTValEncodingMask = Gen.FSTValEncodingGeneral := by
  rw [and_topmask, Nat.div_eq_of_lt h]
  rfl

/-! ### posting.go: frequency and has-locations flag -/

theorem encodeFreqHasLocs_eq (f : Nat) (b : Bool) (hf : f < 2 ^ 63) :
    Gen.encodeFreqHasLocs f b = 2 * f + (if b then 1 else 0) := by
  unfold Gen.encodeFreqHasLocs
  rw [shl_mod_u64 f 1 63 hf (by decide)]
  cases b
  · rw [Nat.shiftLeft_eq, Nat.pow_one, Nat.mul_comm]
    rfl
  · rw [if_pos rfl, ← Nat.shiftLeft_add_eq_or_of_lt (by decide), Nat.shiftLeft_eq, Nat.pow_one,
      Nat.mul_comm]
    rfl

theorem decodeFreqHasLocs_eq (v : Nat) :
    Gen.decodeFreqHasLocs v = (v / 2, decide (v % 2 ≠ 0)) := by
  unfold Gen.decodeFreqHasLocs
  rw [Nat.shiftRight_eq_div_pow, Nat.and_one_is_mod, Nat.pow_one]

theorem freqHasLocs_roundtrip (f : Nat) (b : Bool) (hf : f < 2 ^ 63) :
    Gen.decodeFreqHasLocs (Gen.encodeFreqHasLocs f b) = (f, b) := by
  have hb : (if b then 1 else 0) < 2 := by cases b <;> decide
  rw [encodeFreqHasLocs_eq f b hf, decodeFreqHasLocs_eq, Nat.mul_comm, pack_div _ _ _ hb,
    Nat.mul_add_mod_of_lt hb]
  cases b <;> rfl

/-! ### synonym codes and vector codes: a 32-bit pair in a 64-bit word -/

theorem encodeSynonym_eq (s d : Nat) (hs : s < 2 ^ 32) (hd : d < 2 ^ 32) :
    Gen.encodeSynonym s d = s * 2 ^ 32 + d := by
  unfold Gen.encodeSynonym
  rw [shl_mod_u64 s 32 32 hs (by decide), ← Nat.shiftLeft_add_eq_or_of_lt hd, Nat.shiftLeft_eq]

theorem decodeSynonym_eq (c : Nat) :
    Gen.decodeSynonym c = (c / 2 ^ 32 % 2 ^ 32, c % 2 ^ 32) := by
  unfold Gen.decodeSynonym
  rw [Nat.shiftRight_eq_div_pow, u32_eq]

/-- `getVectorCode` (doc number, score bits) is the same term as `encodeSynonym`. -/
theorem getVectorCode_eq (s d : Nat) (hs : s < 2 ^ 32) (hd : d < 2 ^ 32) :
    Gen.getVectorCode s d = s * 2 ^ 32 + d := encodeSynonym_eq s d hs hd

theorem synonym_roundtrip (s d : Nat) (hs : s < 2 ^ 32) (hd : d < 2 ^ 32) :
    Gen.decodeSynonym (Gen.encodeSynonym s d) = (s, d) := by
  rw [encodeSynonym_eq s d hs hd, decodeSynonym_eq, pack_div _ _ _ hd, Nat.mul_add_mod_of_lt hd,
    Nat.mod_eq_of_lt hs]

theorem synonym_injective (s d s' d' : Nat) (hs : s < 2 ^ 32) (hd : d < 2 ^ 32)
    (hs' : s' < 2 ^ 32) (hd' : d' < 2 ^ 32)
    (h : Gen.encodeSynonym s d = Gen.encodeSynonym s' d') : s = s' ∧ d = d' := by
  have := congrArg Gen.decodeSynonym h
  rw [synonym_roundtrip s d hs hd, synonym_roundtrip s' d' hs' hd'] at this
  exact Prod.mk.inj this

/-! ### chunk.go: getChunkSize

  `fun_cases` gives the eight branches of the definition at once, each with its conditions as
  hypotheses (unfolding and splitting the nested `if`s one by one is far slower). -/

theorem getChunkSize_pos (m c n s : Nat) (h : Gen.getChunkSize m c n = .ok s) : 0 < s := by
  revert h
  fun_cases Gen.getChunkSize m c n <;> intro h
  case case1 => cases h
  case case2 h0 _ =>                      -- mode ≤ 1024: the mode itself, not 0
    cases h
    exact Nat.pos_of_ne_zero h0
  case case3 => cases h
  case case4 _ _ _ _ h4 =>                -- mode 1025, small cardinality: `maxDocs`, tested
    cases h
    exact Nat.pos_of_ne_zero h4
  case case5 =>                           -- mode 1025 otherwise: 1024
    cases h
    decide
  case case6 => cases h
  case case7 _ _ _ _ _ _ h4 =>            -- mode 1026: the quotient, tested
    exact Except.ok.inj h ▸ Nat.pos_of_ne_zero h4
  case case8 => cases h

/-- Mode 1026: for a 64-bit cardinality `numChunks` does not wrap, and the quotient is not 0. -/
theorem numChunks_ok (c n : Nat) (hn : 0 < n) (hc : c ≤ n) (hc64 : c < 2 ^ 64) :
    n / ((c / 1024 + 1) % Gen.u64) ≠ 0 := by
  rcases Nat.eq_zero_or_pos c with rfl | h0
  · exact Nat.ne_of_gt (Nat.div_pos hn (by decide))
  · have hq : c / 1024 + 1 ≤ c := Nat.div_lt_self h0 (by decide)
    rw [mod_u64 (Nat.lt_of_le_of_lt hq hc64)]
    exact Nat.ne_of_gt (Nat.div_pos (Nat.le_trans hq hc) (Nat.succ_pos _))

/-- The literal statement (no 64-bit bound on the cardinality); false in the model, see
    `Props.Codec.getChunkSize_ok_of_valid_full_false`. -/
def getChunkSize_ok_of_valid_full : Prop :=
  ∀ (m c n : Nat), (1 ≤ m ∧ m ≤ 1026) → 0 < n → c ≤ n → ∃ s, Gen.getChunkSize m c n = .ok s

set_option linter.unusedVariables false in
/-- `h` only says where `s` comes from: the bound holds for every `s`. -/
theorem chunk_index_lt (m c n s d : Nat) (h : Gen.getChunkSize m c n = .ok s) (hd : d < n) :
    d / s < (n - 1) / s + 1 :=
  Nat.lt_succ_of_le (Nat.div_le_div_right (Nat.le_sub_one_of_lt hd))

end Zap.Codec
