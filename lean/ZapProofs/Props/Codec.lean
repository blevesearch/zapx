/-
  ZapProofs.Props.Codec: headline theorems about the byte-level codecs.
  Most restate a lemma of ZapProofs/Codec/*.lean, the others are read off the lemmas there in
  a few lines; then they are instantiated on concrete values, and what each depends on is reported.
-/
import ZapProofs.Codec.IntCoder
import ZapProofs.Codec.Content
import ZapProofs.Codec.Footer

namespace Zap.Props.Codec
open Zap.Codec

theorem uvarint_putUvarint (x : Nat) (rest : Bytes) :
    uvarint (putUvarint x ++ rest) = some (x, rest) := _root_.Zap.Codec.uvarint_putUvarint x rest

theorem putUvarint_bytes (x : Nat) : ∀ b ∈ putUvarint x, b < 256 := _root_.Zap.Codec.putUvarint_bytes x

theorem numUvarintBytes_eq (x : Nat) : numUvarintBytes x = (putUvarint x).length :=
  _root_.Zap.Codec.numUvarintBytes_eq x

theorem uvarints_putUvarints (xs : List Nat) : uvarints (putUvarints xs) = xs :=
  _root_.Zap.Codec.uvarints_putUvarints xs

theorem readN_putUvarints (xs : List Nat) (rest : Bytes) :
    readN xs.length (putUvarints xs ++ rest) = some (xs, rest) := _root_.Zap.Codec.readN_putUvarints xs rest

theorem memRead_put (pre : Bytes) (x : Nat) (hx : x < 2 ^ 64) (post : Bytes) :
    memRead (pre ++ putUvarint x ++ post) pre.length
      = some (x, false, pre.length + (putUvarint x).length) := _root_.Zap.Codec.memRead_put pre x hx post

theorem memSkip_put (pre : Bytes) (x : Nat) (post : Bytes) :
    memSkip (pre ++ putUvarint x ++ post) pre.length = pre.length + (putUvarint x).length :=
  _root_.Zap.Codec.memSkip_put pre x post

theorem memSkip_eq_memRead_pos (pre : Bytes) (x : Nat) (hx : x < 2 ^ 64) (post : Bytes) :
    (memRead (pre ++ putUvarint x ++ post) pre.length).map (·.2.2)
      = some (memSkip (pre ++ putUvarint x ++ post) pre.length) := by
  rw [_root_.Zap.Codec.memRead_put pre x hx post, _root_.Zap.Codec.memSkip_put]; rfl

theorem endOffsets_prefix_sums (lens : List Nat) :
    endOffsets lens = (List.range lens.length).map (fun i => sumList (lens.take (i + 1))) :=
  _root_.Zap.Codec.endOffsets_prefix_sums lens

theorem chunkBoundary_endOffsets (lens : List Nat) (c : Nat) (h : c < lens.length) :
    chunkBoundary (endOffsets lens) c = (sumList (lens.take c), sumList (lens.take (c + 1))) :=
  _root_.Zap.Codec.chunkBoundary_endOffsets lens c h

theorem chunk_slice (segs : List Bytes) (c : Nat) (h : c < segs.length) :
    let be := chunkBoundary (endOffsets (segs.map List.length)) c
    (segs.flatten.drop be.1).take (be.2 - be.1) = segs[c] := _root_.Zap.Codec.chunk_slice segs c h

theorem intcoder_roundtrip (cs maxDoc : Nat) (adds : List (Nat × List Nat)) (hcs : 0 < cs)
    (hmono : adds.Pairwise (fun a b => a.1 ≤ b.1)) (hmax : ∀ a ∈ adds, a.1 ≤ maxDoc) :
    intDecodeChunks (intCoderEncode cs maxDoc adds)
      = some ((List.range (maxDoc / cs + 1)).map (fun c =>
          (adds.filter (fun a => a.1 / cs = c)).flatMap (·.2))) :=
  _root_.Zap.Codec.intcoder_roundtrip cs maxDoc adds hcs hmono hmax

/-- Reuse: after ANY protocol-respecting history, `Reset` + `SetChunkSize`
    gives exactly a fresh coder. -/
theorem intcoder_reuse_state (cs0 maxDoc0 : Nat) (ops : List Op) (cs maxDoc : Nat) :
    (((ReCoder.fresh cs0 maxDoc0).run ops).reset.setChunkSize cs maxDoc).c
      = IntCoder.new cs maxDoc :=
  (setChunkSize_clean _ cs maxDoc
    (clean_reset _ (spareZero_run ops _ (by intro x hx; simp [ReCoder.fresh] at hx)))).1

/-- ... hence encodes like a fresh coder. -/
theorem intcoder_reuse (cs0 maxDoc0 : Nat) (ops : List Op) (cs maxDoc : Nat)
    (adds : List (Nat × List Nat)) :
    ((adds.foldl (fun c a => c.add a.1 a.2)
        (((ReCoder.fresh cs0 maxDoc0).run ops).reset.setChunkSize cs maxDoc).c).close).write
      = intCoderEncode cs maxDoc adds := by
  rw [intcoder_reuse_state]
  rfl

theorem onehit_roundtrip (d n : Nat) (hd : d < 2 ^ 31) (hn : n < 2 ^ 31) :
    Gen.FSTValDecode1Hit (Gen.FSTValEncode1Hit d n) = (d, n) := by
  rw [decode_encode_1hit, Nat.mod_eq_of_lt hd, Nat.mod_eq_of_lt hn]

theorem onehit_tagged (d n : Nat) :
    Gen.FSTValEncode1Hit d n &&& Gen.FSTValEncodingMask = Gen.FSTValEncoding1Hit := by
  -- the high part of the packed pair is `2 * 2 ^ 31 + n % 2 ^ 31`, so the top field holds 2
  rw [and_topmask, encode1Hit_pack, div_two_pow_add _ 31 31,
    pack_div _ _ _ (mod_two_pow_lt d 31), Nat.pow_succ' (n := 31),
    pack_div _ _ _ (mod_two_pow_lt n 31)]
  rfl

theorem general_not_onehit (off : Nat) (h : off < 2 ^ 62) :
    off &&& Gen.FSTValEncodingMask ≠ Gen.FSTValEncoding1Hit := by
  rw [general_tagged off h]
  decide

theorem freqHasLocs_roundtrip (f : Nat) (b : Bool) (hf : f < 2 ^ 63) :
    Gen.decodeFreqHasLocs (Gen.encodeFreqHasLocs f b) = (f, b) :=
  _root_.Zap.Codec.freqHasLocs_roundtrip f b hf

theorem synonym_roundtrip (s d : Nat) (hs : s < 2 ^ 32) (hd : d < 2 ^ 32) :
    Gen.decodeSynonym (Gen.encodeSynonym s d) = (s, d) := _root_.Zap.Codec.synonym_roundtrip s d hs hd

theorem synonym_order (s d s' d' : Nat) (hs : s < 2 ^ 32) (hd : d < 2 ^ 32)
    (hs' : s' < 2 ^ 32) (hd' : d' < 2 ^ 32) :
    Gen.encodeSynonym s d < Gen.encodeSynonym s' d' ↔ s < s' ∨ (s = s' ∧ d < d') := by
  rw [encodeSynonym_eq s d hs hd, encodeSynonym_eq s' d' hs' hd']
  exact pack_lt_iff _ _ _ _ _ hd hd'

theorem vectorCode_order (doc sc doc' sc' : Nat) (h1 : doc < 2 ^ 32) (h2 : sc < 2 ^ 32)
    (h3 : doc' < 2 ^ 32) (h4 : sc' < 2 ^ 32) :
    Gen.getVectorCode doc sc < Gen.getVectorCode doc' sc' ↔
      doc < doc' ∨ (doc = doc' ∧ sc < sc') :=
  synonym_order doc sc doc' sc' h1 h2 h3 h4   -- `getVectorCode` is the same term as `encodeSynonym`

theorem vectorCode_doc (doc sc : Nat) (h1 : doc < 2 ^ 32) (h2 : sc < 2 ^ 32) :
    Gen.getVectorCode doc sc >>> 32 = doc := by
  rw [getVectorCode_eq doc sc h1 h2, Nat.shiftRight_eq_div_pow, pack_div _ _ _ h2]

theorem vectorCode_score (doc sc : Nat) (h1 : doc < 2 ^ 32) (h2 : sc < 2 ^ 32) :
    Gen.getVectorCode doc sc % 2 ^ 32 = sc := by
  rw [getVectorCode_eq doc sc h1 h2, Nat.mul_add_mod_of_lt h2]

theorem getChunkSize_pos (m c n s : Nat) (h : Gen.getChunkSize m c n = .ok s) : 0 < s :=
  _root_.Zap.Codec.getChunkSize_pos m c n s h

/-- Needs `c < 2^64` (Go `uint64`): without it the literal statement is false
    in the model, `getChunkSize_ok_of_valid_full_false`. -/
theorem getChunkSize_ok_of_valid (m c n : Nat) (hm : 1 ≤ m ∧ m ≤ 1026) (hn : 0 < n)
    (hc : c ≤ n) (hc64 : c < 2 ^ 64) : ∃ s, Gen.getChunkSize m c n = .ok s := by
  fun_cases Gen.getChunkSize m c n
  case case1 h0 => exact absurd h0 (Nat.ne_of_gt hm.1)
  case case2 => exact ⟨_, rfl⟩
  case case3 _ _ _ _ h4 => exact absurd h4 (Nat.ne_of_gt hn)
  case case4 => exact ⟨_, rfl⟩
  case case5 => exact ⟨_, rfl⟩
  case case6 _ _ _ _ _ _ h4 => exact absurd h4 (numChunks_ok c n hn hc hc64)
  case case7 => exact ⟨_, rfl⟩
  case case8 _ h1 h2 h3 =>
    -- above 1024, neither 1025 nor 1026: above 1026
    exact absurd (Nat.lt_of_le_of_ne (Nat.lt_of_le_of_ne (Nat.not_le.1 h1) (Ne.symm h2)) (Ne.symm h3))
      (Nat.not_lt.2 hm.2)

theorem getChunkSize_ok_of_valid_full_false : ¬ _root_.Zap.Codec.getChunkSize_ok_of_valid_full := by
  intro h
  obtain ⟨s, hs⟩ := h 1026 (1024 * (2 ^ 64 - 1)) (1024 * (2 ^ 64 - 1)) (by decide) (by decide)
    (Nat.le_refl _)
  have he : Gen.getChunkSize 1026 (1024 * (2 ^ 64 - 1)) (1024 * (2 ^ 64 - 1))
      = .error "ErrChunkSizeZero" := rfl
  rw [he] at hs
  cases hs

theorem chunk_index_lt (m c n s d : Nat) (h : Gen.getChunkSize m c n = .ok s) (hd : d < n) :
    d / s < (n - 1) / s + 1 := _root_.Zap.Codec.chunk_index_lt m c n s d h hd

theorem crcUpdateRaw_append (st : Nat) (a b : Bytes) :
    crcUpdateRaw st (a ++ b) = crcUpdateRaw (crcUpdateRaw st a) b :=
  _root_.Zap.Codec.crcUpdateRaw_append st a b

theorem crcUpdate_append (c : Nat) (a b : Bytes) (hc : c < 2 ^ 32) :
    crcUpdate c (a ++ b) = crcUpdate (crcUpdate c a) b := _root_.Zap.Codec.crcUpdate_append c a b hc

theorem crcUpdate_lt (c : Nat) (bs : Bytes) (hc : c < 2 ^ 32) (hbs : ∀ b ∈ bs, b < 256) :
    crcUpdate c bs < 2 ^ 32 := _root_.Zap.Codec.crcUpdate_lt c bs hc hbs

theorem footer_roundtrip (vals : String → Nat) (body : Bytes) (name : String)
    (hname : name ∈ Gen.Facts.footerReads.map (·.1))
    (hfit : ∀ w ∈ Gen.Facts.footerWrites, vals w.1 < 256 ^ w.2) :
    decodeField (body ++ encodeFooter vals) name = some (vals (writeName name)) :=
  _root_.Zap.Codec.footer_roundtrip vals body name hname hfit

theorem footer_layout : Gen.Facts.footerWrites =
    [("numDocs", 8), ("storedIndexOffset", 8), ("fieldsIndexOffset", 8),
     ("sectionsIndexOffset", 8), ("docValueOffset", 8), ("chunkMode", 4), ("Version", 4),
     ("crc", 4)] := _root_.Zap.Codec.footer_layout

theorem footer_size : (Gen.Facts.footerWrites.map (·.2)).sum = Gen.FooterSize := _root_.Zap.Codec.footer_size

theorem footer_length (vals : String → Nat) : (encodeFooter vals).length = Gen.FooterSize :=
  _root_.Zap.Codec.footer_length vals

theorem content_roundtrip (compress : Bytes → Bytes)
    (hsn : ∀ x, snappyDecode (compress x) = some x)
    (cs maxDoc : Nat) (adds : List (Nat × Bytes))
    (hmono : adds.Pairwise (fun a b => a.1 ≤ b.1)) (hmax : ∀ a ∈ adds, a.1 ≤ maxDoc)
    (hsize : (contentEncode compress cs maxDoc adds).length < 2 ^ 64) :
    contentDecode (contentEncode compress cs maxDoc adds)
      = some ((List.range (maxDoc / cs + 1)).map (fun c => adds.filter (fun a => a.1 / cs = c))) :=
  _root_.Zap.Codec.content_roundtrip compress hsn cs maxDoc adds hmono hmax hsize

/-- the snappy hypothesis is satisfiable (all-literals encoder) -/
theorem snappyDecode_snappyLit (x : Bytes) : snappyDecode (snappyLit x) = some x :=
  _root_.Zap.Codec.snappyDecode_snappyLit x

/-! ### concrete instances (hypotheses are satisfiable, values non-trivial) -/

example : putUvarint 300 = [172, 2] := by
  rw [putUvarint_ge (by decide), putUvarint_lt (by decide)]
example : uvarint ([172, 2] ++ [7]) = some (300, [7]) := by decide
example : uvarint (putUvarint 300 ++ [7]) = some (300, [7]) := uvarint_putUvarint 300 [7]
example : uvarints (putUvarints [0, 127, 128, 16384, 2 ^ 64 - 1]) = [0, 127, 128, 16384, 2 ^ 64 - 1] :=
  uvarints_putUvarints _
example : memRead ([9, 9] ++ putUvarint (2 ^ 64 - 1) ++ [1]) 2
    = some (2 ^ 64 - 1, false, 2 + (putUvarint (2 ^ 64 - 1)).length) :=
  memRead_put [9, 9] (2 ^ 64 - 1) (by decide) [1]
-- Go's overflow rule: nine 0xff bytes and a tenth byte above 1 is an error
example : memRead [255, 255, 255, 255, 255, 255, 255, 255, 255, 2] 0 = some (0, true, 10) := by
  decide

example : endOffsets [0, 5, 0, 5] = [0, 5, 5, 10] := by decide
example : chunkBoundary (endOffsets [3, 0, 4]) 2 = (3, 7) := by decide

-- three chunks (chunk size 2, docs 0..5), the middle one empty
example : intDecodeChunks (intCoderEncode 2 5 [(0, [1, 300]), (1, [2]), (4, [7]), (5, [])])
    = some [[1, 300, 2], [], [7]] := by
  rw [intcoder_roundtrip 2 5 _ (by decide) (by decide) (by decide)]
  decide

-- without the monotonicity hypothesis the round trip fails (chunks come out swapped)
theorem intcoder_needs_mono :
    intDecodeChunks (intCoderEncode 1 1 [(1, [5]), (0, [6])]) = some [[5], [6]] := by
  decide +kernel

-- content coder: three chunks, middle one empty
example : contentDecode (contentEncode snappyLit 2 5 [(0, [1, 2]), (1, [3]), (4, [9, 9, 9])])
    = some [[(0, [1, 2]), (1, [3])], [], [(4, [9, 9, 9])]] := by
  rw [content_roundtrip snappyLit snappyDecode_snappyLit 2 5 _ (by decide) (by decide)
    (by decide +kernel)]
  decide

example : Gen.FSTValEncode1Hit 5 7 = 9223372051887161349 := by decide
example : Gen.FSTValDecode1Hit (Gen.FSTValEncode1Hit 123456 654321) = (123456, 654321) :=
  onehit_roundtrip _ _ (by decide) (by decide)
example : Gen.decodeFreqHasLocs (Gen.encodeFreqHasLocs 41 true) = (41, true) :=
  freqHasLocs_roundtrip 41 true (by decide)
example : Gen.encodeSynonym 3 9 < Gen.encodeSynonym 4 0 :=
  (synonym_order 3 9 4 0 (by decide) (by decide) (by decide) (by decide)).mpr (Or.inl (by decide))
example : Gen.getChunkSize 1026 5000 100000 = .ok 20000 := rfl
example : Gen.getChunkSize 1025 10 77 = .ok 77 := rfl
example : Gen.getChunkSize 0 10 77 = .error "ErrChunkSizeZero" := rfl

-- CRC-32/IEEE check value of "123456789"
theorem crc32_check : crc32 [49, 50, 51, 52, 53, 54, 55, 56, 57] = 0xCBF43926 := by decide +kernel
example : crcUpdate (crc32 [49, 50, 51, 52]) [53, 54, 55, 56, 57]
    = crc32 ([49, 50, 51, 52] ++ [53, 54, 55, 56, 57]) :=
  (_root_.Zap.Codec.crc32_append _ _).symm

example : decodeField ([1, 2, 3] ++ encodeFooter (Footer.vals
    { numDocs := 1000, storedIndexOffset := 77, fieldsIndexOffset := 88, sectionsIndexOffset := 99,
      docValueOffset := 2 ^ 64 - 1, chunkMode := 1026, version := 16, crc := 0xCBF43926 }))
    "docValueOffset" = some (2 ^ 64 - 1) := by
  rw [footer_roundtrip _ _ _ (by decide +kernel) (by decide +kernel)]
  decide +kernel

end Zap.Props.Codec

section Report
open Zap.Props.Codec
#print axioms uvarint_putUvarint
#print axioms putUvarint_bytes
#print axioms numUvarintBytes_eq
#print axioms uvarints_putUvarints
#print axioms readN_putUvarints
#print axioms memRead_put
#print axioms memSkip_put
#print axioms memSkip_eq_memRead_pos
#print axioms endOffsets_prefix_sums
#print axioms chunkBoundary_endOffsets
#print axioms chunk_slice
#print axioms intcoder_roundtrip
#print axioms intcoder_reuse
#print axioms intcoder_reuse_state
#print axioms Zap.Codec.setChunkSize_without_reset_is_wrong
#print axioms intcoder_needs_mono
#print axioms content_roundtrip
#print axioms snappyDecode_snappyLit
#print axioms onehit_roundtrip
#print axioms onehit_tagged
#print axioms general_not_onehit
#print axioms freqHasLocs_roundtrip
#print axioms synonym_roundtrip
#print axioms synonym_order
#print axioms vectorCode_order
#print axioms vectorCode_doc
#print axioms vectorCode_score
#print axioms getChunkSize_pos
#print axioms getChunkSize_ok_of_valid
#print axioms getChunkSize_ok_of_valid_full_false
#print axioms chunk_index_lt
#print axioms crcUpdateRaw_append
#print axioms crcUpdate_append
#print axioms crcUpdate_lt
#print axioms crc32_check
#print axioms footer_roundtrip
#print axioms footer_layout
#print axioms footer_size
#print axioms footer_length
end Report
