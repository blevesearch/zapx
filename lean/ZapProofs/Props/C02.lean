/-
  C02: stored fields, document ids, document count, id lookup (DocNumbers) of
  a built segment, against `Spec.stored` / `Spec.docNumbers`.
  Property theorems only; helpers are in ZapProofs.Read.Stored.  `DocNumbers` itself needs the
  dictionary content of C01: `C02_docNumbers_full` in Props/C02Full.
-/
import ZapProofs.Read.Stored

namespace Zap
open Zap.Stored

/-- C02 (Count). -/
theorem C02_count (vectors : Bool) (mode : Nat) (b : Batch) : (buildSeg vectors mode b).numDocs = b.length := rfl

/-- C02 (stored fields): visiting all stored fields of document `d` of the built
    segment delivers `_id` first and then, in field-table order and within a
    field in input order, every stored instance of the document, with the name
    resolved through the segment's field table and the type as one byte. -/
theorem C02_stored (vectors : Bool) (mode : Nat) (b : Batch) (_hwf : Spec.WF b) (d : Nat) (hd : d < b.length) :
    (buildSeg vectors mode b).storedAll d = Spec.stored (fieldTable b) b[d] := by
  unfold Seg.storedAll
  rw [C02_count, if_pos hd, buildSeg_stored_get vectors mode b d hd]
  simp only [Spec.stored, storedDoc, List.map_flatMap, List.map_map]
  refine congrArg (_ :: ·) ?_
  -- the writer stores the field id, the reader resolves it through the same table
  apply flatMap_zipIdx_drop
  rintro ⟨n, i⟩ hp
  obtain ⟨hi, hx⟩ := List.mem_zipIdx' hp
  simp only [Function.comp_def]
  rw [buildSeg_nameOf vectors mode b i hi, ← hx]

/-- C02 (out of range): beyond the last document nothing is visited and there is no id. -/
theorem C02_beyond (vectors : Bool) (mode : Nat) (b : Batch) (d : Nat) (hd : b.length ≤ d) :
    (buildSeg vectors mode b).storedAll d = [] ∧ (buildSeg vectors mode b).docID d = none := by
  have : ¬ d < b.length := Nat.not_lt.2 hd
  simp [Seg.storedAll, Seg.docID, C02_count, this]

/-- C02 (early stop): a visitor that returns `false` on its `k`-th callback
    receives exactly the first `max k 1` values (all of them if there are fewer):
    a prefix of the full visit, of length `min (max k 1) xs.length`. -/
theorem C02_stop {α : Type} (xs : List α) (k : Nat) :
    visitWithStop xs (some k) = xs.take (max k 1) ∧
    visitWithStop xs (some k) <+: visitWithStop xs none ∧
    (visitWithStop xs (some k)).length = min (max k 1) xs.length := by
  refine ⟨rfl, ?_, ?_⟩
  · exact List.take_prefix _ _
  · exact List.length_take

/-- C02 (DocID): the id of document `d` is the value of the first stored `_id`
    instance of `b[d]` (which exists for a well-formed batch). -/
theorem C02_docID (vectors : Bool) (mode : Nat) (b : Batch) (hwf : Spec.WF b) (d : Nat) (hd : d < b.length) :
    ∃ f, (storedInsts b[d] idName).head? = some f ∧ (buildSeg vectors mode b).docID d = some f.val := by
  obtain ⟨f, hf, hk, hname, hst⟩ := hwf.hasId b[d] (List.getElem_mem hd)
  have hmem : f ∈ storedInsts b[d] idName :=
    List.mem_filter.2 ⟨List.mem_filter.2 ⟨hf, by rw [hk]; rfl⟩, by simp [hname, hst]⟩
  cases hh : storedInsts b[d] idName with
  | nil => rw [hh] at hmem; cases hmem
  | cons g rest =>
    refine ⟨g, rfl, ?_⟩
    rw [Seg.docID, C02_count, if_pos hd, buildSeg_stored_get vectors mode b d hd, storedDoc, hh]
    rfl

/-- C02 (DocID, bleve's `_id` discipline): the id is the document's id. -/
theorem C02_docID_id (vectors : Bool) (mode : Nat) (b : Batch) (hid : IdWF b) (d : Nat) (hd : d < b.length) :
    (buildSeg vectors mode b).docID d = some b[d].id := by
  rw [Seg.docID, C02_count, if_pos hd, buildSeg_stored_get vectors mode b d hd, storedDoc,
    storedInsts_id_of_idWF (hid b[d] (List.getElem_mem hd))]
  rfl

/-- The max-key short cut of `DocNumbers` never hides a hit: above the last key
    of a strictly ascending dictionary nothing is found. -/
theorem C02_maxkey_shortcut_sound {β : Type} (terms : List (Bytes × β)) (mx : Bytes) (v : β) (id : Bytes)
    (hs : SortedLt (terms.map (·.1))) (hlast : terms.getLast? = some (mx, v))
    (hgt : Bytes.le id mx = false) : lookup id terms = none :=
  maxkey_shortcut_sound terms mx v id hs hlast hgt

/-- `Spec.docNumbers` is ascending and duplicate free, and lists exactly the
    documents whose id is in `ids`. -/
theorem C02_docNumbers_spec (b : Batch) (ids : List Bytes) :
    (Spec.docNumbers b ids).Pairwise (· < ·) ∧
    ∀ d, d ∈ Spec.docNumbers b ids ↔ ∃ h : d < b.length, b[d].id ∈ ids :=
  ⟨specDocNumbers_pairwise b ids, mem_specDocNumbers b ids⟩

/-! ### Concrete data

A 3-document batch: a field stored twice in one document (with array
positions), a type byte above 255, field-table order different from input
order, a composite field, a field that is not stored. -/

namespace C02Ex

def tk (s : String) : Tok := { term := strBytes s, freq := 1, locs := [] }
def idF (s : String) : FieldIn := { name := idName, stored := true, val := strBytes s, toks := [tk s] }
def titleN : Name := strBytes "title"
def alphaN : Name := strBytes "alpha"
def zetaN : Name := strBytes "zeta"

def exB : Batch := [
  { id := strBytes "a", fields := [idF "a",
      { name := titleN, stored := true, val := [84, 49], toks := [tk "t"] },
      { name := titleN, stored := true, val := [84, 50], ap := [1], typ := 372 }] },
  { id := strBytes "b", fields := [idF "b", { name := strBytes "body", toks := [tk "q"] },
      { kind := .comp, name := strBytes "_all", toks := [tk "q"] }] },
  { id := strBytes "c", fields := [idF "c",
      { name := zetaN, stored := true, val := [90] },
      { name := alphaN, stored := true, val := [65], typ := 110 }] } ]

def seg : Seg := buildSeg false 0 exB

theorem exB_wf : Spec.WF exB := by constructor <;> decide +kernel
theorem exB_idwf : IdWF exB := by decide +kernel

/-- the hypotheses are satisfiable -/
example : Spec.WF exB := exB_wf
example : IdWF exB := exB_idwf

/-- both sides of `C02_stored`, and their value, for documents 0 and 2 -/
example : seg.storedAll 0 = Spec.stored (fieldTable exB) exB[0] ∧
    seg.storedAll 0 =
      [ { name := idName, typ := 116, val := [97], ap := [] },
        { name := titleN, typ := 116, val := [84, 49], ap := [] },
        { name := titleN, typ := 116, val := [84, 50], ap := [1] } ] := by decide +kernel
example : seg.storedAll 2 = Spec.stored (fieldTable exB) exB[2] ∧
    seg.storedAll 2 =
      [ { name := idName, typ := 116, val := [99], ap := [] },
        { name := alphaN, typ := 110, val := [65], ap := [] },
        { name := zetaN, typ := 116, val := [90], ap := [] } ] := by decide +kernel

/-- `C02_beyond`, `C02_docID`, `C02_count` -/
example : seg.storedAll 3 = [] ∧ seg.docID 3 = none ∧ seg.docID 1 = some [98] ∧ seg.numDocs = 3 := by
  decide +kernel

/-- `C02_stop`: a visitor stopping at its 2nd callback (resp. at once) on document 0 -/
example : visitWithStop (seg.storedAll 0) (some 2) = (seg.storedAll 0).take 2 ∧
    (visitWithStop (seg.storedAll 0) (some 0)).length = 1 ∧
    (visitWithStop (seg.storedAll 0) (some 7)).length = 3 := by decide +kernel

end C02Ex

#print axioms C02_stored
#print axioms C02_beyond
#print axioms C02_stop
#print axioms C02_docID
#print axioms C02_docID_id
#print axioms C02_count
#print axioms C02_maxkey_shortcut_sound
#print axioms C02_docNumbers_spec

end Zap
