/-
  ZapProofs.Arrays.Arena: the shared backing array with per-list windows (`Arena`), generic in the
  cell type.  The invariant `Exact`: every window holds exactly what was appended to it, and not more
  than was counted; then `push` writes inside the list's own window, which no other window overlaps,
  and `read` returns the appends.
-/
import ZapModel.BuildArrays
import ZapProofs.Base.List

namespace Zap.Arr

/-! ### window offsets: prefix sums of the counts -/

def startOf (ns : List Nat) (pid : Nat) : Nat := (ns.take pid).sum

theorem startOf_zero (ns : List Nat) : startOf ns 0 = 0 := by simp [startOf]

theorem startOf_cons_succ (n : Nat) (ns : List Nat) (p : Nat) :
    startOf (n :: ns) (p + 1) = n + startOf ns p := by
  simp [startOf]

theorem startOf_succ (ns : List Nat) (p : Nat) : startOf ns (p + 1) = startOf ns p + ns.getD p 0 := by
  unfold startOf
  rw [List.take_add_one, List.sum_append, List.getD_eq_getElem?_getD]
  cases ns[p]? <;> simp

theorem startOf_mono (ns : List Nat) {p q : Nat} (h : p ≤ q) : startOf ns p ≤ startOf ns q :=
  List.sum_le_of_sublist (List.take_sublist_take_left h)

theorem startOf_add_le (ns : List Nat) {p q : Nat} (h : p < q) : startOf ns p + ns.getD p 0 ≤ startOf ns q := by
  rw [← startOf_succ]
  exact startOf_mono ns h

theorem startOf_le_sum (ns : List Nat) (p : Nat) : startOf ns p ≤ ns.sum :=
  List.sum_le_of_sublist (List.take_sublist p ns)

theorem startOf_add_le_sum (ns : List Nat) (p : Nat) : startOf ns p + ns.getD p 0 ≤ ns.sum := by
  rw [← startOf_succ]
  exact startOf_le_sum ns _

theorem length_carve {α : Type} (off : Nat) (ns : List Nat) : (carve off ns : List (Slice α)).length = ns.length := by
  induction ns generalizing off with
  | nil => rfl
  | cons n ns ih => simp [carve, ih]

theorem getElem?_carve {α : Type} (off : Nat) (ns : List Nat) (pid : Nat) (h : pid < ns.length) :
    (carve off ns : List (Slice α))[pid]? = some (.view (off + startOf ns pid) 0) := by
  induction ns generalizing off pid with
  | nil => simp at h
  | cons n ns ih =>
    cases pid with
    | zero => rw [startOf_zero]; rfl
    | succ pid =>
      simp only [carve, List.getElem?_cons_succ]
      rw [ih (off + n) pid (Nat.lt_of_succ_lt_succ h), startOf_cons_succ, Nat.add_assoc]

theorem length_mkBacking {α : Type} (stale : List α) (tot : Nat) : tot ≤ (mkBacking stale tot).size := by
  unfold mkBacking
  split
  · simpa using ‹tot ≤ stale.length›
  · simp

/-- `content pid` is what has been appended to list `pid` so far; `ns` are the counts. -/
structure Exact {α : Type} (A : Arena α) (ns : List Nat) (content : Nat → List α) : Prop where
  notBad : A.bad = false
  len : A.sl.length = ns.length
  total : ns.sum ≤ A.back.size
  room : ∀ pid, pid < ns.length → (content pid).length ≤ ns.getD pid 0
  /-- still a window of the shared array, at the carved offset: no `append` has detached the slice -/
  hdr : ∀ pid, pid < ns.length → A.sl[pid]? = some (.view (startOf ns pid) (content pid).length)
  cells : ∀ pid, pid < ns.length → ∀ i x, (content pid)[i]? = some x →
    A.back[startOf ns pid + i]? = some (some x)

theorem windows_disjoint (ns : List Nat) {p q i j : Nat} (hpq : p ≠ q)
    (hi : i < ns.getD p 0) (hj : j < ns.getD q 0) : startOf ns p + i ≠ startOf ns q + j := by
  -- the cell of the earlier list lies below the start of the later window
  rcases Nat.lt_or_gt_of_ne hpq with h | h
  · exact Nat.ne_of_lt (Nat.lt_of_lt_of_le (Nat.add_lt_add_left hi _)
      (Nat.le_trans (startOf_add_le ns h) (Nat.le_add_right _ _)))
  · exact Nat.ne_of_gt (Nat.lt_of_lt_of_le (Nat.add_lt_add_left hj _)
      (Nat.le_trans (startOf_add_le ns h) (Nat.le_add_right _ _)))

theorem exact_init {α : Type} (stale : List α) (ns : List Nat) (tot : Nat) (htot : tot = ns.sum) :
    Exact { back := mkBacking stale tot, sl := carve 0 ns } ns (fun _ => []) where
  notBad := rfl
  len := length_carve 0 ns
  total := by rw [← htot]; exact length_mkBacking stale tot
  room := fun _ _ => Nat.zero_le _
  hdr := by
    intro pid h
    show (carve 0 ns)[pid]? = _
    rw [getElem?_carve 0 ns pid h]; simp
  cells := by intro pid _ i x h; simp at h

theorem exact_push {α : Type} [Inhabited α] (A : Arena α) (ns : List Nat) (content content' : Nat → List α)
    (pid : Nat) (x : α) (hA : Exact A ns content) (hpid : pid < ns.length)
    (hroom : (content pid).length < ns.getD pid 0)
    (h1 : content' pid = content pid ++ [x]) (h2 : ∀ q, q ≠ pid → content' q = content q) :
    Exact (A.push pid x) ns content' := by
  have hidx : startOf ns pid + (content pid).length < A.back.size :=
    Nat.lt_of_lt_of_le (Nat.add_lt_add_left hroom _) (Nat.le_trans (startOf_add_le_sum ns pid) hA.total)
  have hpush : A.push pid x =
      { A with back := A.back.setIfInBounds (startOf ns pid + (content pid).length) (some x),
               sl := A.sl.set pid (.view (startOf ns pid) ((content pid).length + 1)) } := by
    unfold Arena.push
    rw [hA.hdr pid hpid]
    simp only [hidx, if_true]
  rw [hpush]
  exact
    { notBad := hA.notBad
      len := by simpa using hA.len
      total := by simpa using hA.total
      room := fun q hq => by
        by_cases e : q = pid
        · rw [e, h1, List.length_append]
          exact hroom
        · rw [h2 q e]
          exact hA.room q hq
      hdr := fun q hq => by
        by_cases e : q = pid
        · subst e
          rw [List.getElem?_set_self (by rw [hA.len]; exact hq), h1]
          simp
        · rw [List.getElem?_set_ne (fun h => e h.symm), h2 q e]
          exact hA.hdr q hq
      cells := fun q hq i y hy => by
        by_cases e : q = pid
        · subst e
          rw [h1] at hy
          rcases List.getElem?_concat_eq_some.1 hy with hy | ⟨rfl, rfl⟩
          · have hi := (List.getElem?_eq_some_iff.1 hy).1
            rw [Array.getElem?_setIfInBounds_ne fun h => Nat.ne_of_gt hi (Nat.add_left_cancel h)]
            exact hA.cells q hq i y hy
          · rw [Array.getElem?_setIfInBounds_self, if_pos hidx]
        · rw [h2 q e] at hy
          have hi := Nat.lt_of_lt_of_le (List.getElem?_eq_some_iff.1 hy).1 (hA.room q hq)
          rw [Array.getElem?_setIfInBounds_ne (windows_disjoint ns (fun h => e h.symm) hroom hi)]
          exact hA.cells q hq i y hy }

theorem exact_pushAll {α : Type} [Inhabited α] (xs : List α) (A : Arena α) (ns : List Nat)
    (content content' : Nat → List α) (pid : Nat) (hA : Exact A ns content) (hpid : pid < ns.length)
    (hroom : (content pid).length + xs.length ≤ ns.getD pid 0)
    (h1 : content' pid = content pid ++ xs) (h2 : ∀ q, q ≠ pid → content' q = content q) :
    Exact (A.pushAll pid xs) ns content' := by
  induction xs generalizing A content with
  | nil =>
    have : content' = content := by
      funext q
      by_cases e : q = pid
      · subst e; simpa using h1
      · exact h2 q e
    rw [this]; exact hA
  | cons x xs ih =>
    show Exact ((A.push pid x).pushAll pid xs) ns content'
    apply ih (A.push pid x) (fun q => if q = pid then content pid ++ [x] else content q)
    · exact exact_push A ns content _ pid x hA hpid
        (Nat.lt_of_lt_of_le (Nat.lt_add_of_pos_right (Nat.succ_pos _)) hroom) (by simp)
        (by intro q e; simp [e])
    · rw [if_pos rfl, List.length_append, List.length_singleton, Nat.add_assoc, Nat.add_comm 1]
      exact hroom
    · simp [h1]
    · intro q e; simp [e, h2 q e]

theorem exact_read {α : Type} [Inhabited α] (A : Arena α) (ns : List Nat) (content : Nat → List α)
    (pid : Nat) (hA : Exact A ns content) (hpid : pid < ns.length) : A.read pid = content pid := by
  unfold Arena.read
  rw [hA.hdr pid hpid]
  show readCells A.back (startOf ns pid) (content pid).length = content pid
  unfold readCells
  have hfit : startOf ns pid + (content pid).length ≤ A.back.size :=
    Nat.le_trans (Nat.add_le_add_left (hA.room pid hpid) _)
      (Nat.le_trans (startOf_add_le_sum ns pid) hA.total)
  apply List.ext_getElem?
  intro i
  rw [List.getElem?_map, Array.getElem?_toList, Array.getElem?_extract, Nat.min_eq_left hfit,
    Nat.add_sub_cancel_left]
  by_cases hi : i < (content pid).length
  · have hx : (content pid)[i]? = some ((content pid)[i]) := List.getElem?_eq_getElem hi
    rw [if_pos hi, hA.cells pid hpid i _ hx, hx]
    rfl
  · rw [if_neg hi, List.getElem?_eq_none (Nat.le_of_not_lt hi)]
    rfl

end Zap.Arr
