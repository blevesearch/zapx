/-
  Lemmas for ZapModel.Theory.Lock (part 1): lockset discipline excludes overlapping
  conflicting accesses in every interleaving.
-/
import ZapModel.Theory.Lock
import ZapProofs.Theory.Update

namespace Zap.Theory.Lock

/-- Thread `i` holds `m` exclusively / shared in state `s`: the dynamic values of the `hw` / `hr`
    arguments of `disciplined` (the invariant `Inv.disc`). -/
def hw (s : State) (m : Mutex) (i : Nat) : Bool := (s.lk m).w == some i
def hr (s : State) (m : Mutex) (i : Nat) : Bool := (s.lk m).r.contains i

structure Inv (x : Loc) (m : Mutex) (s : State) : Prop where
  disc : ∀ i, disciplined x m (hw s m i) (hr s m i) (s.thr i).rest = true
  table : (s.lk m).w ≠ none → (s.lk m).r = []

theorem inv_init (x : Loc) (m : Mutex) (progs : Nat → List Ev)
    (h : ∀ i, disciplined x m false false (progs i) = true) : Inv x m (init progs) where
  disc := by intro i; simpa [init, hw, hr] using h i
  table := by intro h; simp [init] at h

@[simp] theorem setThr_same (f : Nat → Thread) (i : Nat) (t : Thread) : setThr f i t i = t := by
  simp [setThr]

theorem setThr_other (f : Nat → Thread) (i j : Nat) (t : Thread) (h : j ≠ i) :
    setThr f i t j = f j := by simp [setThr, h]

@[simp] theorem setLk_same (f : Mutex → LockSt) (m : Mutex) (l : LockSt) : setLk f m l m = l := by
  simp [setLk]

theorem setLk_other (f : Mutex → LockSt) (m m' : Mutex) (l : LockSt) (h : m' ≠ m) :
    setLk f m l m' = f m' := by simp [setLk, h]

theorem inv_update (x : Loc) (m : Mutex) (s : State) (i : Nat) (lk' : Mutex → LockSt)
    (r : List Ev) (b : Bool) (hI : Inv x m s)
    (hother : ∀ j, j ≠ i →
      ((lk' m).w == some j) = hw s m j ∧ (lk' m).r.contains j = hr s m j)
    (hself : disciplined x m ((lk' m).w == some i) ((lk' m).r.contains i) r = true)
    (htable : (lk' m).w ≠ none → (lk' m).r = []) :
    Inv x m { lk := lk', thr := setThr s.thr i ⟨r, b⟩ } where
  disc := forall_update (P := fun j (t : Thread) =>
      disciplined x m ((lk' m).w == some j) ((lk' m).r.contains j) t.rest = true) _ i _ hself
    fun j hj => by rw [(hother j hj).1, (hother j hj).2]; exact hI.disc j
  table := htable

theorem inv_update_of_eq {x : Loc} {m : Mutex} {s : State} (hI : Inv x m s) (i : Nat)
    (lk' : Mutex → LockSt) (r : List Ev) (b : Bool) (hlk : lk' m = s.lk m)
    (hself : disciplined x m (hw s m i) (hr s m i) r = true) :
    Inv x m { lk := lk', thr := setThr s.thr i ⟨r, b⟩ } :=
  inv_update x m s i lk' r b hI (fun j _ => by rw [hlk]; exact ⟨rfl, rfl⟩)
    (by rw [hlk]; exact hself) (by rw [hlk]; exact hI.table)

theorem inv_step (x : Loc) (m : Mutex) (s : State) (i : Nat) (hI : Inv x m s) :
    Inv x m (step s i) := by
  have hd := hI.disc i
  generalize hrest : (s.thr i).rest = rest at hd
  cases rest with
  | nil => simp only [step, hrest]; exact hI
  | cons e r =>
    cases e with
    | lock m' =>
      simp only [step, hrest]
      split
      next hc =>
        by_cases hm : m' = m
        · subst hm
          simp only [disciplined, if_true, Bool.and_eq_true, Bool.not_eq_true'] at hd
          apply inv_update x m' s i _ r false hI
          · intro j hj
            have hji : ¬ (i = j) := fun h => hj h.symm
            simp [hw, hr, hc.1, hji]
          · simpa [hr] using hd.2
          · intro _; simpa using hc.2
        · simp only [disciplined, hm, if_false] at hd
          exact inv_update_of_eq hI i _ r false (setLk_other _ _ _ _ (Ne.symm hm)) hd
      next => exact hI
    | unlock m' =>
      simp only [step, hrest]
      by_cases hm : m' = m
      · subst hm
        simp only [disciplined, if_true, Bool.and_eq_true] at hd
        have hwi : (s.lk m').w = some i := by simpa [hw] using hd.1
        simp only [hwi, if_true]
        apply inv_update x m' s i _ r false hI
        · intro j hj
          have hji : ¬ (i = j) := fun h => hj h.symm
          simp [hw, hr, hwi, hji]
        · simpa [hr] using hd.2
        · intro h; simp at h
      · simp only [disciplined, hm, if_false] at hd
        refine inv_update_of_eq hI i _ r false ?_ hd
        split
        · exact setLk_other _ _ _ _ (Ne.symm hm)
        · rfl
    | rlock m' =>
      simp only [step, hrest]
      split
      next hc =>
        by_cases hm : m' = m
        · subst hm
          simp only [disciplined, if_true, Bool.and_eq_true, Bool.not_eq_true'] at hd
          apply inv_update x m' s i _ r false hI
          · intro j hj
            simp [hw, hr, hj]
          · have hwi : hw s m' i = false := hd.1.1
            have h2 := hd.2
            rw [hwi] at h2
            simpa [hc] using h2
          · intro h; simp [hc] at h
        · simp only [disciplined, hm, if_false] at hd
          exact inv_update_of_eq hI i _ r false (setLk_other _ _ _ _ (Ne.symm hm)) hd
      next => exact hI
    | runlock m' =>
      simp only [step, hrest]
      by_cases hm : m' = m
      · subst hm
        simp only [disciplined, if_true, Bool.and_eq_true] at hd
        apply inv_update x m' s i _ r false hI
        · intro j hj
          simp [hw, hr, hj]
        · simpa [hw] using hd.2
        · intro h
          have := hI.table (by simpa using h)
          simp [this]
      · simp only [disciplined, hm, if_false] at hd
        exact inv_update_of_eq hI i _ r false (setLk_other _ _ _ _ (Ne.symm hm)) hd
    | read x' | write x' =>
      -- entering the access keeps the word, leaving it drops the event
      simp only [step, hrest]
      split
      · simp only [disciplined, Bool.and_eq_true] at hd
        exact inv_update_of_eq hI i s.lk r false rfl hd.2
      · exact inv_update_of_eq hI i s.lk _ true rfl hd

theorem no_conflict_of_inv (x : Loc) (m : Mutex) (s : State) (hI : Inv x m s) :
    ¬ Conflict s x := by
  rintro ⟨i, j, hij, ⟨_, ri, hri⟩, hj⟩
  have hdi := hI.disc i
  rw [hri] at hdi
  simp only [disciplined, bne_self_eq_false, Bool.false_or, Bool.and_eq_true] at hdi
  have hwi : (s.lk m).w = some i := by simpa [hw] using hdi.1
  have hwj : hw s m j = true ∨ hr s m j = true := by
    have hdj := hI.disc j
    rcases hj with ⟨_, rj, hrj⟩ | ⟨_, rj, hrj⟩ <;> rw [hrj] at hdj <;>
      simp only [disciplined, bne_self_eq_false, Bool.false_or, Bool.and_eq_true,
        Bool.or_eq_true] at hdj
    · exact Or.inl hdj.1
    · exact hdj.1
  rcases hwj with h | h
  · have : (s.lk m).w = some j := by simpa [hw] using h
    rw [hwi] at this
    exact hij (Option.some.inj this)
  · have hr0 := hI.table (by rw [hwi]; simp)
    simp [hr, hr0] at h

theorem lockset_excludes (x : Loc) (m : Mutex) (progs : Nat → List Ev)
    (hdisc : ∀ i, disciplined x m false false (progs i) = true) (sched : List Nat) :
    ¬ Conflict (exec (init progs) sched) x :=
  no_conflict_of_inv x m _ <|
    List.foldlRecOn sched _ (inv_init x m progs hdisc) fun s hI i _ => inv_step x m s i hI

theorem disciplined_append (x : Loc) (m : Mutex) (hw hr : Bool) (a b : List Ev) :
    disciplined x m hw hr (a ++ b)
      = (disciplined x m hw hr a
         && disciplined x m (endState m hw hr a).1 (endState m hw hr a).2 b) := by
  fun_induction disciplined x m hw hr a <;>
    simp [disciplined, endState, *, Bool.and_assoc]

theorem disciplined_flatten (x : Loc) (m : Mutex) (calls : List (List Ev))
    (h : ∀ w ∈ calls, callOK x m w = true) :
    disciplined x m false false calls.flatten = true := by
  induction calls with
  | nil => rfl
  | cons w ws ih =>
    have hw := h w List.mem_cons_self
    simp only [callOK, Bool.and_eq_true, beq_iff_eq] at hw
    rw [List.flatten_cons, disciplined_append, hw.1, hw.2]
    simpa using ih (fun w' hw' => h w' (List.mem_cons_of_mem _ hw'))

end Zap.Theory.Lock
