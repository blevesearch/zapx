/-
  C03 (doc values), content of a built segment: the doc-value data of a field records for each
  document the terms the dictionary lists it under (`Dv.buildSeg_recorded`, from the dictionary
  content `dict_entries` and `buildSeg_terms_sorted` that C01 rests on too), and a visit reads them
  back.
-/
import ZapProofs.Read.Built
import ZapProofs.Props.C03

namespace Zap
open Zap.Dv Zap.Stored

/-- C03 (content).  For a non-empty well-formed batch and a name `n` of the field table the
    segment has a field record `f` for `n`; if `n` is indexed with doc values in the batch, `f.dv`
    is `docTermMap` of the field's dictionary with the extra doc values (encoded geo shapes) added:
    document numbers strictly ascending, in range, never an empty list, and the values recorded for
    ANY document number are the specified doc values (terms, then the shape if any); otherwise
    `f.dv = none`. -/
theorem C03_content_full (vectors : Bool) (mode : Nat) (b : Batch) (hwf : Spec.WF b) (hb : b ≠ [])
    (n : Name) (hn : n ∈ fieldTable b) :
    ∃ f, (buildSeg vectors mode b).field? n = some f ∧ f.name = n ∧
      (includeDocValues b n = true →
        ∃ terms, f.terms = terms.map (fun t => (t.1, PostRep.general t.2)) ∧
          f.dv = some (addShapes b n (docTermMap b.length terms)) ∧
          ((addShapes b n (docTermMap b.length terms)).map (·.1)).Pairwise (· < ·) ∧
          (∀ p ∈ addShapes b n (docTermMap b.length terms), p.1 < b.length ∧ p.2 ≠ []) ∧
          ∀ d, (((addShapes b n (docTermMap b.length terms)).find? (·.1 = d)).map (·.2)).getD [] =
            Spec.docValues vectors b n d) ∧
      (includeDocValues b n = false → f.dv = none) := by
  rw [← buildSeg_names vectors mode b] at hn
  obtain ⟨f, hf, rfl⟩ := List.mem_map.mp hn
  obtain ⟨terms, ht, hdv⟩ := buildSeg_field_shape hf
  refine ⟨f, buildSeg_field?_self vectors mode b hb f hf, rfl, fun hi => ?_, fun hi => ?_⟩
  · rw [if_pos hi] at hdv
    exact ⟨terms, ht, hdv, (addShapes_shape b _ _).1, (addShapes_shape b _ _).2,
      buildSeg_recorded vectors mode b hwf hf ht hi⟩
  · rw [hdv, hi]
    rfl

/-- C03 (end to end): on the segment built from a well-formed batch, with any reachable visit
    state (any order of visits, state reused, also across segments), a visit of `doc` delivers for
    each listed name (in order, per occurrence) the specified doc values of the document (its terms
    ascending, then the encoded shape of a geo-shape field) — nothing for names without doc values,
    unknown names, or documents beyond the batch. -/
theorem C03_visit_built_full (vectors : Bool) (mode : Nat) (b : Batch) (hwf : Spec.WF b)
    (segOf : Nat → Seg) (tag cs : Nat) (htag : segOf tag = buildSeg vectors mode b)
    (fields : List Name) (st : Option DvState) (hst : Reach segOf cs fields st) (doc : Nat) :
    ((buildSeg vectors mode b).visitDocValues tag cs st fields doc).2 =
      fields.flatMap (fun n => (Spec.docValues vectors b n doc).map (fun t => (n, t))) := by
  rw [← htag, visit_out segOf cs fields st hst.inv tag doc, htag]
  exact List.flatMap_congr_mem (fun n _ => buildSeg_fieldOut vectors mode b hwf doc n)

namespace C03Ex

theorem exB_wf : Spec.WF exB := by constructor <;> decide +kernel

/-- the theorem applied to a state that has already visited documents 2 and 0 (so it carries a
    loaded chunk); the specified values evaluated -/
example :
    (seg1.visitDocValues 0 2
      (some (seg1.visitDocValues 0 2 (some (seg1.visitDocValues 0 2 none flds 2).1) flds 0).1) flds 2).2 =
    [(tagN, w), (tagN, x), (tagN, z), (tagN, w), (tagN, x), (tagN, z)] := by
  exact (C03_visit_built_full false 0 exB exB_wf one 0 2 rfl flds _
    (Reach.visit (segOf := one) 0 0 (Reach.visit (segOf := one) 0 2 Reach.init)) 2).trans (by decide +kernel)

/-- `C03_content_full` on the doc-value field `tag` -/
example : tagN ∈ fieldTable exB ∧ includeDocValues exB tagN = true ∧
    ∀ d, Spec.docValues false exB tagN d = (([(0, [x, y]), (2, [w, x, z])].find? (·.1 = d)).map (·.2)).getD [] := by
  have hm : tagN ∈ fieldTable exB := by decide +kernel
  have hi : includeDocValues exB tagN = true := by decide +kernel
  refine ⟨hm, hi, fun d => ?_⟩
  obtain ⟨f, hf, _, h1, _⟩ := C03_content_full false 0 exB exB_wf (by simp [exB]) tagN hm
  obtain ⟨terms, _, hdv, _, _, hrec⟩ := h1 hi
  have hseg := exB_dv
  rw [show seg1 = buildSeg false 0 exB from rfl, hf] at hseg
  simp only [Option.map_some, Option.some.injEq, hdv] at hseg
  rw [← hrec d, hseg]

theorem exG_wf : Spec.WF exG := by constructor <;> decide +kernel

/-- `C03_visit_built_full` on the geo-shape batch, with a state that has already visited
    documents 2 and 1: document 1 has no terms, only its shape; document 2 its two terms and the
    shape of its last geo-shape instance -/
example :
    (segG.visitDocValues 0 2 (some (segG.visitDocValues 0 2 none [geoN] 2).1) [geoN] 1).2 = [(geoN, [0x01, 0x02])] ∧
    (segG.visitDocValues 0 2 (some (segG.visitDocValues 0 2 (some (segG.visitDocValues 0 2 none [geoN] 2).1)
        [geoN] 1).1) [geoN] 2).2 = [(geoN, w), (geoN, z), (geoN, [0xbb, 0xcc])] :=
  ⟨(C03_visit_built_full false 0 exG exG_wf (fun _ => segG) 0 2 rfl [geoN] _
      (Reach.visit (segOf := fun _ => segG) 0 2 Reach.init) 1).trans (by decide +kernel),
   (C03_visit_built_full false 0 exG exG_wf (fun _ => segG) 0 2 rfl [geoN] _
      (Reach.visit (segOf := fun _ => segG) 0 1 (Reach.visit (segOf := fun _ => segG) 0 2 Reach.init)) 2).trans
      (by decide +kernel)⟩

end C03Ex

#print axioms C03_content_full
#print axioms C03_visit_built_full

end Zap
