/-
  A stored-document record written as `writeStoredFields` writes it decodes (list-level twin of
  `Layout.decStoredDoc`) to the document that went in; where the record keeps its snappy block.
-/
import ZapModel.Writer
import ZapProofs.Writer.Uv

namespace Zap.Writer.Stored
open Zap.Codec Zap.Writer.Uv

theorem uvAllL_putUvarints (xs : List Nat) :
    ∀ fuel, xs.length ≤ fuel → uvAllL fuel (putUvarints xs) = some xs := by
  induction xs with
  | nil => intro fuel _; cases fuel <;> simp [uvAllL, putUvarints]
  | cons x xs ih =>
    intro fuel hf
    cases fuel with
    | zero => exact absurd hf (Nat.not_succ_le_zero _)
    | succ fuel =>
      rw [putUvarints_cons]
      have hne : putUvarint x ++ putUvarints xs ≠ [] := fun h => putUvarint_ne_nil x (List.append_eq_nil_iff.mp h).1
      unfold uvAllL
      split
      · contradiction
      · rw [uvarint_putUvarint]
        simp only
        rw [ih fuel (Nat.le_of_succ_le_succ hf)]
        rfl

theorem metaVals_length_ge (vs : List StoredVal) : ∀ curr, vs.length ≤ (metaVals curr vs).length := by
  induction vs with
  | nil => intro _; simp [metaVals]
  | cons v vs ih =>
    intro curr
    have := ih (curr + v.val.length)
    simp only [metaVals, valMeta, List.length_append, List.length_cons, List.length_nil]
    omega

theorem storedData_append (a b : List StoredVal) : storedData (a ++ b) = storedData a ++ storedData b := by
  simp [storedData]

theorem storedGroups_metaVals (vs : List StoredVal) :
    ∀ (pre post : Bytes) (fuel : Nat), vs.length ≤ fuel →
      storedGroups (pre ++ (storedData vs ++ post)) fuel (metaVals pre.length vs) = some vs := by
  induction vs with
  | nil => intro pre post fuel _; cases fuel <;> rfl
  | cons v vs ih =>
    intro pre post fuel hf
    cases fuel with
    | zero => exact absurd hf (Nat.not_succ_le_zero _)
    | succ fuel =>
      have hraw : pre ++ (storedData (v :: vs) ++ post)
          = (pre ++ v.val) ++ (storedData vs ++ post) := by simp [storedData]
      have hih := ih (pre ++ v.val) post fuel (Nat.le_of_succ_le_succ hf)
      rw [List.length_append] at hih
      simp only [metaVals, valMeta, List.cons_append, List.nil_append, storedGroups]
      have hcons : storedData (v :: vs) = v.val ++ storedData vs := by simp [storedData]
      rw [if_neg (by simp), if_neg (by rw [hraw]; simp only [List.length_append]; omega),
        List.drop_left, List.drop_left, List.take_left, hcons, List.append_assoc, List.take_left,
        ← List.append_assoc, hih]
      rfl

/-- The fuel is what both readers give: `ml + 1` (`decodeStoredDocL`; `Layout.uvAll`: the length of
    the meta block + 1). -/
theorem uvAllL_storedMeta (sd : StoredDoc) :
    uvAllL ((storedMeta sd).length + 1) (storedMeta sd) = some (sd.id.length :: metaVals 0 sd.vals) := by
  have hmeta : storedMeta sd = putUvarints (sd.id.length :: metaVals 0 sd.vals) := by
    rw [putUvarints_cons]; rfl
  have := putUvarints_length_ge (sd.id.length :: metaVals 0 sd.vals)
  rw [← hmeta] at this
  have huv := uvAllL_putUvarints (sd.id.length :: metaVals 0 sd.vals) ((storedMeta sd).length + 1)
    (Nat.le_succ_of_le this)
  rwa [← hmeta] at huv

theorem stored_header (compress : Bytes → Bytes) (sd : StoredDoc)
    (hsz : (encodeStoredDoc compress sd).length < 2 ^ 64) (pre post : Bytes) :
    let comp := compress (storedData sd.vals)
    let r2 := storedMeta sd ++ (sd.id ++ (comp ++ post))
    let r1 := putUvarint (sd.id.length + comp.length) ++ r2
    uv64 ((pre ++ encodeStoredDoc compress sd ++ post).drop pre.length) = some ((storedMeta sd).length, r1) ∧
    uv64 r1 = some (sd.id.length + comp.length, r2) ∧
    r2.take (storedMeta sd).length = storedMeta sd ∧
    r2.drop (storedMeta sd).length = sd.id ++ (comp ++ post) := by
  unfold encodeStoredDoc at hsz
  simp only [List.length_append] at hsz
  refine ⟨?_, uv64_putUvarint _ (by omega) _, List.take_left, List.drop_left⟩
  unfold encodeStoredDoc
  simp only [List.append_assoc]
  rw [List.drop_left, uv64_putUvarint _ (by omega)]

theorem decodeStoredDocL_roundtrip (compress : Bytes → Bytes)
    (hsn : ∀ x, snappyDecode (compress x) = some x) (sd : StoredDoc)
    (hsz : (encodeStoredDoc compress sd).length < 2 ^ 64) (pre post : Bytes) :
    decodeStoredDocL (pre ++ encodeStoredDoc compress sd ++ post) pre.length = some sd := by
  obtain ⟨h1, h2, h3, h4⟩ := stored_header compress sd hsz pre post
  unfold decodeStoredDocL
  rw [h1]
  simp only
  rw [h2]
  simp only
  rw [if_neg (by simp only [List.length_append]; omega), h3, uvAllL_storedMeta]
  simp only
  rw [if_neg (Nat.not_lt.mpr (Nat.le_add_right _ _)), h4, ← List.append_assoc, List.take_left' (by simp),
    List.drop_left, hsn, List.take_left]
  simp only
  have hg := storedGroups_metaVals sd.vals [] [] ((metaVals 0 sd.vals).length + 1)
    (Nat.le_succ_of_le (metaVals_length_ge sd.vals 0))
  simp only [List.nil_append, List.append_nil, List.length_nil] at hg
  rw [hg]

theorem storedBlockL_written (compress : Bytes → Bytes) (sd : StoredDoc)
    (hsz : (encodeStoredDoc compress sd).length < 2 ^ 64) (pre post : Bytes) :
    ∃ A : Bytes, storedBlockL (pre ++ encodeStoredDoc compress sd ++ post) pre.length
        = some (A.length, A.length + (compress (storedData sd.vals)).length) ∧
      pre ++ encodeStoredDoc compress sd ++ post = A ++ (compress (storedData sd.vals) ++ post) := by
  obtain ⟨h1, h2, h3, -⟩ := stored_header compress sd hsz pre post
  -- `storedBlockL` computes positions as `bs.length - r2.length + …`: write the file as `B ++ r2`
  -- (`r2` of `stored_header`)
  obtain ⟨B, hfile⟩ : ∃ B, pre ++ encodeStoredDoc compress sd ++ post
      = B ++ (storedMeta sd ++ (sd.id ++ (compress (storedData sd.vals) ++ post))) :=
    ⟨pre ++ putUvarint (storedMeta sd).length ++
        putUvarint (sd.id.length + (compress (storedData sd.vals)).length),
      by simp only [encodeStoredDoc, List.append_assoc]⟩
  refine ⟨B ++ storedMeta sd ++ sd.id, ?_, by rw [hfile]; simp only [List.append_assoc]⟩
  unfold storedBlockL
  rw [h1]
  simp only
  rw [h2]
  simp only
  rw [h3, uvAllL_storedMeta, hfile, List.length_append, Nat.add_sub_cancel]
  simp only [List.length_append, Nat.add_assoc]

theorem decodeStoredDocL_some {bs : Bytes} {off : Nat} {sd : StoredDoc} (h : decodeStoredDocL bs off = some sd) :
    ∃ ml r1 dl r2 idLen groups raw, uv64 (bs.drop off) = some (ml, r1) ∧ uv64 r1 = some (dl, r2) ∧
      ml + dl ≤ r2.length ∧ uvAllL (ml + 1) (r2.take ml) = some (idLen :: groups) ∧ idLen ≤ dl ∧
      snappyDecode (((r2.drop ml).take dl).drop idLen) = some raw ∧
      storedGroups raw (groups.length + 1) groups = some sd.vals ∧
      sd.id = ((r2.drop ml).take dl).take idLen := by
  revert h
  fun_cases decodeStoredDocL bs off with
  | case9 ml r1 h1 dl r2 h2 hlen idLen groups h3 hid dat raw h4 vals h5 =>
    intro h
    cases h
    exact ⟨ml, r1, dl, r2, idLen, groups, raw, h1, h2, Nat.le_of_not_lt hlen, h3, Nat.le_of_not_lt hid, h4, h5,
      rfl⟩
  | _ =>
    intro h
    cases h

end Zap.Writer.Stored
