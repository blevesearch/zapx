/-
  ZapProofs.Merge.Renumber: the renumbering of a merge.  `surv` and `offset` count survivors;
  the maps of `remapAll` are `Spec.newNum` tabulated (`remapAll_eq`), strictly monotone on the
  documents they keep and with ranges that do not interleave; the new numbers are consecutive;
  `newDocCount` is the number of survivors when the drop lists are in range.
-/
import ZapModel.Spec
import ZapProofs.Base.Basic

namespace Zap.MergeL

def surv (n : Nat) (dr : Option (List Nat)) : Nat :=
  ((List.range n).filter (fun x => !isDropped dr x)).length

theorem surv_succ (n : Nat) (dr : Option (List Nat)) :
    surv (n + 1) dr = surv n dr + (if isDropped dr n then 0 else 1) := by
  unfold surv
  rw [List.range_succ, List.filter_append, List.length_append]
  cases h : isDropped dr n <;> simp [h]

theorem surv_zero (dr : Option (List Nat)) : surv 0 dr = 0 := rfl

theorem surv_le (n : Nat) (dr : Option (List Nat)) : surv n dr ≤ n :=
  Nat.le_trans (List.length_filter_le _ _) (Nat.le_of_eq List.length_range)

theorem surv_mono {a b : Nat} (h : a ≤ b) (dr : Option (List Nat)) : surv a dr ≤ surv b dr := by
  induction h with
  | refl => exact Nat.le_refl _
  | step _ ih => rw [surv_succ]; exact Nat.le_trans ih (Nat.le_add_right _ _)

theorem surv_lt {d n : Nat} (hd : d < n) (dr : Option (List Nat)) (hs : isDropped dr d = false) :
    surv d dr < surv n dr := by
  have h1 : surv (d + 1) dr = surv d dr + 1 := by rw [surv_succ, hs]; rfl
  have h2 := surv_mono (show d + 1 ≤ n from hd) dr
  rwa [h1] at h2

def remapFn (drops : Option (List Nat)) (start : Nat) (d : Nat) : Option Nat :=
  if isDropped drops d then none else some (start + surv d drops)

theorem remapFn_eq_some {dr : Option (List Nat)} {start d k : Nat} :
    remapFn dr start d = some k ↔ isDropped dr d = false ∧ k = start + surv d dr := by
  unfold remapFn
  cases isDropped dr d <;> simp [eq_comm]

theorem remapSeg_eq (n : Nat) (drops : Option (List Nat)) (start : Nat) :
    remapSeg n drops start = ((List.range n).map (remapFn drops start), start + surv n drops) := by
  induction n with
  | zero => rfl
  | succ n ih =>
    have : remapSeg (n + 1) drops start =
        (fun (acc : List (Option Nat) × Nat) d =>
          if isDropped drops d then (acc.1 ++ [none], acc.2) else (acc.1 ++ [some acc.2], acc.2 + 1))
          (remapSeg n drops start) n := by
      unfold remapSeg
      rw [List.range_succ, List.foldl_append]
      rfl
    rw [this, ih, List.range_succ, List.map_append, surv_succ]
    cases h : isDropped drops n <;> simp [remapFn, h, Nat.add_assoc]

theorem filterMap_remapFn_range (dr : Option (List Nat)) (start n : Nat) :
    (List.range n).filterMap (remapFn dr start) = List.range' start (surv n dr) := by
  induction n with
  | zero => rfl
  | succ n ih =>
    rw [List.range_succ, List.filterMap_append, ih, surv_succ]
    cases h : isDropped dr n
    · simp [remapFn, h, List.range'_1_concat]
    · simp [remapFn, h]

def offset (sizes : List Nat) (drops : List (Option (List Nat))) (i : Nat) : Nat :=
  sumList ((List.range i).map (fun j => surv (sizes.getD j 0) (drops.getD j none)))

theorem offset_zero (sizes : List Nat) (drops : List (Option (List Nat))) : offset sizes drops 0 = 0 := rfl

theorem offset_succ (sizes : List Nat) (drops : List (Option (List Nat))) (i : Nat) :
    offset sizes drops (i + 1) = offset sizes drops i + surv (sizes.getD i 0) (drops.getD i none) := by
  simp only [offset, sumList_eq_sum, List.range_succ, List.map_append, List.sum_append, List.map_cons,
    List.map_nil, List.sum_cons, List.sum_nil, Nat.add_zero]

theorem offset_mono (sizes : List Nat) (drops : List (Option (List Nat))) {i j : Nat} (h : i ≤ j) :
    offset sizes drops i ≤ offset sizes drops j := by
  induction h with
  | refl => exact Nat.le_refl _
  | step _ ih => rw [offset_succ]; exact Nat.le_trans ih (Nat.le_add_right _ _)

/-- `remapAll` takes the drop list apart by `headD` and `tail`; `offset` and `Spec.newNum` read it
    by `getD`. -/
theorem getD_succ_eq_tail {α : Type} (l : List α) (j : Nat) (d : α) :
    l.getD (j + 1) d = l.tail.getD j d := by
  cases l <;> rfl

theorem offset_cons (s : Nat) (sizes : List Nat) (drops : List (Option (List Nat))) (i : Nat) :
    offset (s :: sizes) drops (i + 1) = surv s (drops.headD none) + offset sizes drops.tail i := by
  simp only [offset, List.range_succ_eq_map, List.map_cons, List.map_map, sumList, Function.comp_def,
    Nat.succ_eq_add_one, List.getD_cons_succ, ← List.headD_eq_getD, List.headD_cons,
    getD_succ_eq_tail drops]

theorem newNum_eq (sizes : List Nat) (drops : List (Option (List Nat))) (i d : Nat) :
    Spec.newNum sizes drops i d = remapFn (drops.getD i none) (offset sizes drops i) d := rfl

theorem survivorCount_eq (sizes : List Nat) (drops : List (Option (List Nat))) :
    Spec.survivorCount sizes drops = offset sizes drops sizes.length := rfl

theorem remapAll_cons (s : Seg) (ss : List Seg) (drops : List (Option (List Nat))) (start : Nat) :
    remapAll (s :: ss) drops start =
      (List.range s.numDocs).map (remapFn (drops.headD none) start) ::
        remapAll ss drops.tail (start + surv s.numDocs (drops.headD none)) := by
  simp only [remapAll, remapSeg_eq]

/-- The inner function is `Spec.newNum`, shifted by `start` (`newNum_eq`). -/
theorem remapAll_eq (segs : List Seg) (drops : List (Option (List Nat))) (start : Nat) :
    remapAll segs drops start = (List.range segs.length).map (fun i =>
      (List.range ((segs.map (·.numDocs)).getD i 0)).map
        (remapFn (drops.getD i none) (start + offset (segs.map (·.numDocs)) drops i))) := by
  induction segs generalizing drops start with
  | nil => rfl
  | cons s ss ih =>
    rw [remapAll_cons, ih, List.length_cons, List.range_succ_eq_map, List.map_cons, List.map_map]
    refine List.cons_eq_cons.2 ⟨?_, ?_⟩
    · rw [List.map_cons, List.getD_cons_zero, ← List.headD_eq_getD, offset_zero, Nat.add_zero]
    · apply List.map_congr_left
      intro i _
      simp only [Function.comp, Nat.succ_eq_add_one, List.map_cons, List.getD_cons_succ, offset_cons,
        getD_succ_eq_tail drops, Nat.add_assoc]

theorem remapAll_length (segs : List Seg) (drops : List (Option (List Nat))) (start : Nat) :
    (remapAll segs drops start).length = segs.length := by
  rw [remapAll_eq, List.length_map, List.length_range]

theorem remapAll_getD (segs : List Seg) (drops : List (Option (List Nat))) (start i : Nat)
    (hi : i < segs.length) :
    (remapAll segs drops start).getD i [] =
      (List.range (segs[i].numDocs)).map
        (remapFn (drops.getD i none) (start + offset (segs.map (·.numDocs)) drops i)) := by
  rw [remapAll_eq, List.getD_map_range _ _ hi]
  simp [List.getD_eq_getElem?_getD, hi]

theorem remapAll_congr {segs segs' : List Seg} (h : segs.map (·.numDocs) = segs'.map (·.numDocs))
    (drops : List (Option (List Nat))) (start : Nat) :
    remapAll segs drops start = remapAll segs' drops start := by
  have hl : segs.length = segs'.length := by simpa using congrArg List.length h
  rw [remapAll_eq, remapAll_eq, h, hl]

def MonoMap (m : List (Option Nat)) : Prop :=
  ∀ d d' k k', d < d' → m.getD d none = some k → m.getD d' none = some k' → k < k'

def MapsSep (a b : List (Option Nat)) : Prop := ∀ k k', some k ∈ a → some k' ∈ b → k < k'

theorem getD_some_mem {m : List (Option Nat)} {d k : Nat} (h : m.getD d none = some k) : some k ∈ m := by
  rw [List.getD_eq_getElem?_getD] at h
  cases hm : m[d]? with
  | none => rw [hm] at h; cases h
  | some o => rw [hm] at h; exact h ▸ List.mem_of_getElem? hm

theorem lt_length_of_getD_some {m : List (Option Nat)} {d k : Nat} (h : m.getD d none = some k) :
    d < m.length := by
  rcases Nat.lt_or_ge d m.length with hlt | hge
  · exact hlt
  · rw [List.getD_eq_getElem?_getD, List.getElem?_eq_none hge] at h
    cases h

theorem mem_map_remapFn {dr : Option (List Nat)} {start n k : Nat}
    (h : some k ∈ (List.range n).map (remapFn dr start)) :
    start ≤ k ∧ k < start + surv n dr := by
  obtain ⟨d, hd, he⟩ := List.mem_map.1 h
  obtain ⟨hs, rfl⟩ := remapFn_eq_some.1 he
  have := surv_lt (List.mem_range.1 hd) dr hs
  exact ⟨Nat.le_add_right _ _, Nat.add_lt_add_left this _⟩

theorem monoMap_map_remapFn (dr : Option (List Nat)) (start n : Nat) :
    MonoMap ((List.range n).map (remapFn dr start)) := by
  intro d d' k k' hlt h h'
  have key : ∀ x y, ((List.range n).map (remapFn dr start)).getD x none = some y →
      isDropped dr x = false ∧ y = start + surv x dr := by
    intro x y hx
    have hxn := lt_length_of_getD_some hx
    rw [List.length_map, List.length_range] at hxn
    rw [List.getD_map_range _ _ hxn] at hx
    exact remapFn_eq_some.1 hx
  obtain ⟨hs, rfl⟩ := key d k h
  obtain ⟨_, rfl⟩ := key d' k' h'
  exact Nat.add_lt_add_left (surv_lt hlt dr hs) _

theorem remapAll_mono (segs : List Seg) (drops : List (Option (List Nat))) (start : Nat) :
    ∀ m ∈ remapAll segs drops start, MonoMap m := by
  rw [remapAll_eq]
  intro m hm
  obtain ⟨i, _, rfl⟩ := List.mem_map.1 hm
  exact monoMap_map_remapFn _ _ _

theorem remapAll_sep (segs : List Seg) (drops : List (Option (List Nat))) (start : Nat) :
    (remapAll segs drops start).Pairwise MapsSep := by
  rw [remapAll_eq, List.pairwise_map]
  refine List.pairwise_lt_range.imp ?_
  intro i j hij k k' hk hk'
  have h1 := (mem_map_remapFn hk).2
  have h2 := (mem_map_remapFn hk').1
  have h3 := offset_mono (segs.map (·.numDocs)) drops (show i + 1 ≤ j from hij)
  rw [offset_succ] at h3
  rw [Nat.add_assoc] at h1
  exact Nat.lt_of_lt_of_le h1 (Nat.le_trans (Nat.add_le_add_left h3 start) h2)

theorem mem_zip_remapAll {segs : List Seg} {drops : List (Option (List Nat))} {p : Seg × List (Option Nat)} :
    p ∈ segs.zip (remapAll segs drops 0) ↔
      ∃ i, ∃ hi : i < segs.length, p = (segs[i], (remapAll segs drops 0).getD i []) := by
  have hl := remapAll_length segs drops 0
  rw [List.mem_iff_getElem]
  simp only [List.length_zip, hl, Nat.min_self, List.getElem_zip, List.getElem_eq_getD ([] : List (Option Nat))]
  exact exists_congr fun i => exists_congr fun hi => eq_comm

theorem zip_mono (segs : List Seg) (drops : List (Option (List Nat))) :
    ∀ p ∈ segs.zip (remapAll segs drops 0), MonoMap p.2 :=
  fun p hp => remapAll_mono segs drops 0 p.2 (List.of_mem_zip hp).2

theorem zip_pairwise_sep (segs : List Seg) (drops : List (Option (List Nat))) :
    (segs.zip (remapAll segs drops 0)).Pairwise (fun a b => MapsSep a.2 b.2) := by
  rw [← List.pairwise_map (f := Prod.snd) (R := MapsSep),
    List.map_snd_zip (by rw [remapAll_length]; exact Nat.le_refl _)]
  exact remapAll_sep segs drops 0

/-! ### Tables keyed by new numbers, concatenated over the inputs

Postings and doc values of the merge result are each the concatenation, over the inputs in order,
of a block whose keys are new numbers of that input. -/

theorem pairwise_flatMap_sep {ι β : Type} {parts : List ι} {m : ι → List (Option Nat)}
    {blk : ι → List β} {key : β → Nat}
    (hsep : parts.Pairwise (fun a b => MapsSep (m a) (m b)))
    (hkey : ∀ p ∈ parts, ∀ x ∈ blk p, some (key x) ∈ m p)
    (hblk : ∀ p ∈ parts, (blk p).Pairwise (fun x y => key x < key y)) :
    (parts.flatMap blk).Pairwise (fun x y => key x < key y) :=
  List.pairwise_flatMap.2 ⟨hblk, hsep.imp_of_mem fun ha hb h x hx y hy =>
    h _ _ (hkey _ ha x hx) (hkey _ hb y hy)⟩

theorem find?_flatMap_sep {ι β : Type} {parts : List ι} {m : ι → List (Option Nat)}
    {blk : ι → List β} {key : β → Nat}
    (hsep : parts.Pairwise (fun a b => MapsSep (m a) (m b)))
    (hkey : ∀ p ∈ parts, ∀ x ∈ blk p, some (key x) ∈ m p)
    {p : ι} (hp : p ∈ parts) {k : Nat} (hk : some k ∈ m p) :
    (parts.flatMap blk).find? (fun x => decide (key x = k)) = (blk p).find? (fun x => decide (key x = k)) := by
  obtain ⟨l₁, l₂, rfl⟩ := List.append_of_mem hp
  obtain ⟨-, h₂, h₁⟩ := List.pairwise_append.1 hsep
  -- no block of another input holds `k`: the maps being separated, that would give `k < k`
  have other : ∀ qs : List ι,
      (∀ q ∈ qs, q ∈ l₁ ++ p :: l₂ ∧ (MapsSep (m q) (m p) ∨ MapsSep (m p) (m q))) →
      (qs.flatMap blk).find? (fun x => decide (key x = k)) = none := by
    intro qs hqs
    rw [List.find?_eq_none]
    intro x hx hxk
    obtain ⟨q, hq, hxq⟩ := List.mem_flatMap.1 hx
    have hkq := hkey q (hqs q hq).1 x hxq
    rw [of_decide_eq_true hxk] at hkq
    exact (hqs q hq).2.elim (fun hs => Nat.lt_irrefl _ (hs k k hkq hk)) fun hs => Nat.lt_irrefl _ (hs k k hk hkq)
  rw [List.flatMap_append, List.flatMap_cons, List.find?_append, List.find?_append,
    other l₁ fun q hq => ⟨List.mem_append_left _ hq, .inl (h₁ q hq p List.mem_cons_self)⟩,
    other l₂ fun q hq => ⟨List.mem_append_right _ (List.mem_cons_of_mem _ hq),
      .inr ((List.pairwise_cons.1 h₂).1 q hq)⟩,
    Option.none_or, Option.or_none]

theorem consecutive_upto (sizes : List Nat) (drops : List (Option (List Nat))) (m : Nat) :
    (List.range m).flatMap (fun i => (List.range (sizes.getD i 0)).filterMap
        (fun d => Spec.newNum sizes drops i d)) = List.range (offset sizes drops m) := by
  induction m with
  | zero => rfl
  | succ m ih =>
    rw [List.range_succ, List.flatMap_append, ih, offset_succ, List.flatMap_singleton]
    show _ ++ (List.range _).filterMap (remapFn (drops.getD m none) (offset sizes drops m)) = _
    rw [filterMap_remapFn_range, List.range_eq_range', List.range_eq_range', ← List.range'_append_1,
      Nat.zero_add]

theorem newNum_none_iff (sizes : List Nat) (drops : List (Option (List Nat))) (i d : Nat) :
    Spec.newNum sizes drops i d = none ↔ isDropped (drops.getD i none) d = true := by
  rw [newNum_eq]; unfold remapFn
  generalize drops.getD i none = dr
  cases isDropped dr d <;> simp

theorem newNum_some {sizes : List Nat} {drops : List (Option (List Nat))} {i d k : Nat}
    (h : Spec.newNum sizes drops i d = some k) :
    isDropped (drops.getD i none) d = false ∧ k = offset sizes drops i + surv d (drops.getD i none) :=
  remapFn_eq_some.1 h

theorem newNum_lt_next {sizes : List Nat} {drops : List (Option (List Nat))} {i d k : Nat}
    (hd : d < sizes.getD i 0) (h : Spec.newNum sizes drops i d = some k) :
    k < offset sizes drops (i + 1) := by
  obtain ⟨h1, h2⟩ := newNum_some h
  rw [offset_succ, h2]
  exact Nat.add_lt_add_left (surv_lt hd _ h1) _

theorem newNum_lt_count {sizes : List Nat} {drops : List (Option (List Nat))} {i d k : Nat}
    (hi : i < sizes.length) (hd : d < sizes.getD i 0) (h : Spec.newNum sizes drops i d = some k) :
    k < Spec.survivorCount sizes drops := by
  have h1 := newNum_lt_next hd h
  have h2 := offset_mono sizes drops (show i + 1 ≤ sizes.length from hi)
  rw [survivorCount_eq]; exact Nat.lt_of_lt_of_le h1 h2

theorem newNum_strictMono {sizes : List Nat} {drops : List (Option (List Nat))} {i d k i' d' k' : Nat}
    (hd : d < sizes.getD i 0)
    (h : Spec.newNum sizes drops i d = some k) (h' : Spec.newNum sizes drops i' d' = some k')
    (hlt : i < i' ∨ (i = i' ∧ d < d')) : k < k' := by
  obtain ⟨hs, rfl⟩ := newNum_some h
  obtain ⟨_, rfl⟩ := newNum_some h'
  rcases hlt with hlt | ⟨rfl, hlt⟩
  · -- an earlier segment: all its numbers are below the later segment's offset
    exact Nat.lt_of_lt_of_le (newNum_lt_next hd h)
      (Nat.le_trans (offset_mono sizes drops hlt) (Nat.le_add_right _ _))
  · exact Nat.add_lt_add_left (surv_lt hlt _ hs) _

theorem newNum_surj {sizes : List Nat} {drops : List (Option (List Nat))} {k : Nat}
    (hk : k < Spec.survivorCount sizes drops) :
    ∃ i d, i < sizes.length ∧ d < sizes.getD i 0 ∧ Spec.newNum sizes drops i d = some k := by
  rw [survivorCount_eq] at hk
  have hm : k ∈ List.range (offset sizes drops sizes.length) := List.mem_range.2 hk
  rw [← consecutive_upto] at hm
  obtain ⟨i, hi, hmem⟩ := List.mem_flatMap.1 hm
  obtain ⟨d, hd, hN⟩ := List.mem_filterMap.1 hmem
  exact ⟨i, d, List.mem_range.1 hi, List.mem_range.1 hd, hN⟩

theorem countP_contains_range (n : Nat) (l : List Nat) (h : ∀ x ∈ l, x < n) :
    (List.range n).countP (fun x => l.contains x) = l.eraseDups.length := by
  rw [List.countP_eq_length_filter]
  -- two duplicate-free lists with the same members
  refine ((List.perm_ext_iff_of_nodup (List.nodup_range.filter _) (List.nodup_eraseDups l)).2
    fun x => ?_).length_eq
  rw [List.mem_filter, List.mem_range, List.contains_iff_mem, List.mem_eraseDups]
  exact ⟨fun h' => h'.2, fun h' => ⟨h x h', h'⟩⟩

theorem surv_add_dropped (n : Nat) (dr : Option (List Nat)) :
    surv n dr + (List.range n).countP (isDropped dr) = n := by
  have := List.length_eq_countP_add_countP (isDropped dr) (l := List.range n)
  rw [List.length_range] at this
  rw [surv, ← List.countP_eq_length_filter, Nat.add_comm]
  simpa using this.symm

/-- Drop lists name only documents that exist (`drops[i] ⊆ [0, numDocs_i)`);
    missing entries of `drops` count as nil. -/
def dropsInRange : List Seg → List (Option (List Nat)) → Bool
  | [], _ => true
  | s :: ss, ds =>
    (match ds.headD none with
     | none => true
     | some l => l.all (fun x => decide (x < s.numDocs))) && dropsInRange ss ds.tail

/-- Cardinality of a drop bitmap (`nil` = 0). -/
def dropCard : Option (List Nat) → Nat
  | none => 0
  | some l => l.eraseDups.length

def DropOk (n : Nat) : Option (List Nat) → Prop
  | none => True
  | some l => ∀ x ∈ l, x < n

theorem dropsInRange_cons (s : Seg) (ss : List Seg) (ds : List (Option (List Nat))) :
    dropsInRange (s :: ss) ds = true ↔ DropOk s.numDocs (ds.headD none) ∧ dropsInRange ss ds.tail = true := by
  simp only [dropsInRange, Bool.and_eq_true]
  cases ds.headD none <;> simp [DropOk]

theorem dropCard_eq {n : Nat} {dr : Option (List Nat)} (h : DropOk n dr) :
    dropCard dr = (List.range n).countP (isDropped dr) := by
  cases dr with
  | none => exact (List.countP_eq_zero.2 (fun _ _ => by simp [isDropped])).symm
  | some l => exact (countP_contains_range n l h).symm

/-- One step of `computeNewDocCount`: in range, nothing is cut off by the subtraction. -/
theorem count_step {n : Nat} {dr : Option (List Nat)} (h : DropOk n dr) (acc : Nat) :
    acc + n - dropCard dr = acc + surv n dr := by
  have h1 := surv_add_dropped n dr
  rw [← dropCard_eq h] at h1
  calc acc + n - dropCard dr = acc + (surv n dr + dropCard dr) - dropCard dr := by rw [h1]
    _ = acc + surv n dr := by rw [← Nat.add_assoc, Nat.add_sub_cancel]

theorem newDocCount_eq_sizes (segs : List Seg) (drops : List (Option (List Nat))) :
    newDocCount segs drops =
      ((segs.map (·.numDocs)).zip (drops ++ List.replicate segs.length none)).foldl
        (fun acc p => acc + p.1 - dropCard p.2) 0 := by
  rw [List.zip_map_left, List.foldl_map]
  rfl

/-- The padded drop list is its head (or nil) and the padded tail; a non-empty `ds` uses up no
    padding, hence `k ≤ k'` and not `k' = k`. -/
theorem pad_cons (ds : List (Option (List Nat))) (k : Nat) :
    ∃ k', k ≤ k' ∧ ds ++ List.replicate (k + 1) none = ds.headD none :: (ds.tail ++ List.replicate k' none) := by
  cases ds with
  | nil => exact ⟨k, Nat.le_refl _, rfl⟩
  | cons d ds => exact ⟨k + 1, Nat.le_succ _, rfl⟩

theorem newDocCount_fold (ss : List Seg) (ds : List (Option (List Nat))) (acc k : Nat)
    (hk : ss.length ≤ k) (hr : dropsInRange ss ds = true) :
    ((ss.map (·.numDocs)).zip (ds ++ List.replicate k none)).foldl
      (fun acc p => acc + p.1 - dropCard p.2) acc
      = acc + offset (ss.map (·.numDocs)) ds ss.length := by
  induction ss generalizing ds acc k with
  | nil => exact (Nat.add_zero acc).symm
  | cons s ss ih =>
    cases k with
    | zero => cases hk
    | succ k =>
      obtain ⟨k', hk', hpad⟩ := pad_cons ds k
      rw [dropsInRange_cons] at hr
      rw [hpad, List.map_cons, List.zip_cons_cons, List.foldl_cons, count_step hr.1,
        ih _ _ k' (Nat.le_trans (Nat.le_of_succ_le_succ hk) hk') hr.2,
        List.length_cons, offset_cons, Nat.add_assoc]

end Zap.MergeL
