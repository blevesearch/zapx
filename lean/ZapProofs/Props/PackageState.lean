/-
  Package-level state of the library (C10: a build depends only on its batch; C11: any number of
  goroutines may read a segment at once).

  Whatever lives in a package-level variable is shared by every build, merge and reader of the
  process.  `Gen.Facts.packageVars` is REGENERATED from `/repo` on every run: every package-level
  `var` with the kind of thing it holds.  Numbers, strings, error sentinels and function hooks aside,
  the list is asserted here entry by entry, each with the reason it is harmless:

  * two `sync.Pool`s (their discipline is the subject of `C11_pool` / `C10_builder_pool`);
  * the ten shared "empty" objects (never written: `C07_reuse`, `C08_dict` and the reuse histories
    of the correspondence runs cover the places that could);
  * `segmentSections` + its mutex and `invertedTextIndexSectionExclusionChecks`: filled in `init()`,
    read afterwards;
  * `termSeparatorSplitSlice`: a one-byte constant; `freqHasLocs1Hit`: a number computed once.

  A scratch buffer, a cache, a third pool or another sentinel hoisted to package level changes the list
  and breaks the obligation, whether or not the race-detector runs hit the data race it creates - which
  is why this is an obligation on the source and not left to the runs.
-/
import ZapModel.Gen.Facts

namespace Zap.PackageState
open Zap.Gen.Facts

/-- kinds that cannot carry state from one call to the next (or are hooks set by the application) -/
def plainKind (k : String) : Bool := k == "scalar" || k == "error" || k == "func"

def expectedShared : List (String × String) := [
  ("emptyDictionary", "empty:Dictionary"),
  ("emptyDictionaryIterator", "empty:DictionaryIterator"),
  ("emptyPostingsIterator", "empty:PostingsIterator"),
  ("emptyPostingsList", "empty:PostingsList"),
  ("emptySynonymsIterator", "empty:SynonymsIterator"),
  ("emptySynonymsList", "empty:SynonymsList"),
  ("emptyThesaurus", "empty:Thesaurus"),
  ("emptyThesaurusIterator", "empty:ThesaurusIterator"),
  ("emptyVecPostingsIterator", "empty:VecPostingsIterator"),
  ("emptyVecPostingsList", "empty:VecPostingsList"),
  ("freqHasLocs1Hit", "call:encodeFreqHasLocs"),
  ("interimPool", "pool"),
  ("invertedTextIndexSectionExclusionChecks", "slice"),
  ("segmentSections", "map"),
  ("segmentSectionsMutex", "struct"),
  ("termSeparatorSplitSlice", "slice"),
  ("visitDocumentCtxPool", "pool")
]

/-- the shared package-level objects of the current source are exactly the known ones -/
theorem package_state_known :
    packageVars.filter (fun p => !plainKind p.2) = expectedShared := by decide +kernel

/-- nothing the extractor could not classify -/
theorem package_state_classified : packageVars.all (fun p => p.2 != "other") = true := by
  decide +kernel

end Zap.PackageState

#print axioms Zap.PackageState.package_state_known
#print axioms Zap.PackageState.package_state_classified
