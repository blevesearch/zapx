/-
  ZapProofs.Arrays.Count: the count pass (`realloc` / `visitField`) is a fold over the flat list of
  visits (field id, term, #locations).  Its result is characterised by the list `ks` of distinct keys
  in first-sight order: `Dicts[fid][term] = pid ↔ ks[pid] = (fid, term)`, and the two count arrays
  hold, per pid, the number of visits of that key and the sum of their location counts (`CInv`).
-/
import ZapModel.BuildArrays
import ZapProofs.Build.Table

namespace Zap.Arr

/-- one iteration of `for term, tf := range tfs` of `visitField` -/
structure Visit where
  fid : Nat
  term : Bytes
  w : Nat

def Visit.key (v : Visit) : Key := (v.fid, v.term)

def tokVisit (fid : Nat) (tok : Tok) : Visit := ⟨fid, tok.term, tok.locs.length⟩

def fieldVisits (tbl : List Name) (f : FieldIn) : List Visit := f.toks.map (tokVisit (fieldIdOf tbl f.name))
def docVisits (tbl : List Name) (d : DocIn) : List Visit := d.visitOrder.flatMap (fieldVisits tbl)
def visits (tbl : List Name) (b : Batch) : List Visit := b.flatMap (docVisits tbl)

def cntV (k : Key) (vs : List Visit) : Nat := (vs.filter (fun v => v.key = k)).length

def wV (k : Key) (vs : List Visit) : Nat := ((vs.filter (fun v => v.key = k)).map (·.w)).sum

theorem cntV_append (k : Key) (a b : List Visit) : cntV k (a ++ b) = cntV k a + cntV k b := by
  simp [cntV]

theorem wV_append (k : Key) (a b : List Visit) : wV k (a ++ b) = wV k a + wV k b := by
  simp [wV]

theorem cntV_concat (k : Key) (vs : List Visit) (v : Visit) :
    cntV k (vs ++ [v]) = cntV k vs + if v.key = k then 1 else 0 := by
  unfold cntV
  by_cases h : v.key = k <;> simp [h]

theorem wV_concat (k : Key) (vs : List Visit) (v : Visit) :
    wV k (vs ++ [v]) = wV k vs + if v.key = k then v.w else 0 := by
  unfold wV
  by_cases h : v.key = k <;> simp [h]

theorem cntV_pos_iff (k : Key) (vs : List Visit) : 0 < cntV k vs ↔ ∃ v ∈ vs, v.key = k := by
  unfold cntV
  rw [List.length_pos_iff_exists_mem]
  constructor
  · rintro ⟨v, hv⟩
    have := List.mem_filter.1 hv
    exact ⟨v, this.1, by simpa using this.2⟩
  · rintro ⟨v, hv, e⟩
    exact ⟨v, List.mem_filter.2 ⟨hv, by simpa using e⟩⟩

theorem wV_zero_of_cntV_zero (k : Key) (vs : List Visit) (h : cntV k vs = 0) : wV k vs = 0 := by
  unfold cntV at h
  unfold wV
  rw [List.length_eq_zero_iff.1 h]; rfl

/-! ### a count array after one more visit

`nT` and `nL` are `ks.map (F · vs)` for `F = cntV`, `wV`; one more visit adds at its key. -/

theorem sum_modify_add (l : List Nat) (i a : Nat) (h : i < l.length) :
    (l.modify i (· + a)).sum = l.sum + a := by
  induction l generalizing i with
  | nil => simp at h
  | cons x l ih =>
    cases i with
    | zero => rw [List.modify_zero_cons, List.sum_cons, List.sum_cons, Nat.add_right_comm]
    | succ i =>
      rw [List.modify_succ_cons, List.sum_cons, List.sum_cons, ih i (Nat.lt_of_succ_lt_succ h), Nat.add_assoc]

theorem modify_append_new (l : List Nat) (a : Nat) : (l ++ [0]).modify l.length (· + a) = l ++ [a] := by
  induction l with
  | nil => simp [List.modify]
  | cons x l ih => simp [List.modify_succ_cons, ih]

section step
variable {F : Key → List Visit → Nat} {vs : List Visit} {v : Visit} {a : Nat} {ks : List Key}

theorem modify_map_concat (hF : ∀ k, F k (vs ++ [v]) = F k vs + if v.key = k then a else 0)
    (hnd : ks.Nodup) {pid : Nat} (hk : ks[pid]? = some v.key) :
    (ks.map (F · vs)).modify pid (· + a) = ks.map (F · (vs ++ [v])) := by
  apply List.ext_getElem?
  intro j
  rw [List.getElem?_modify, List.getElem?_map, List.getElem?_map]
  cases hj : ks[j]? with
  | none => rfl
  | some k' =>
    simp only [Option.map_some, Option.map_eq_map, hF]
    by_cases e : pid = j
    · have : v.key = k' := by rw [e, hj] at hk; exact (Option.some.inj hk).symm
      simp [e, this]
    · have hne : v.key ≠ k' := fun e2 =>
        e ((List.getElem?_inj (List.getElem?_eq_some_iff.1 hk).1 hnd).1 (by rw [hk, hj, e2]))
      simp [e, hne]

theorem append_map_concat (hF : ∀ k, F k (vs ++ [v]) = F k vs + if v.key = k then a else 0)
    (hnot : v.key ∉ ks) (h0 : F v.key vs = 0) :
    (ks.map (F · vs) ++ [0]).modify ks.length (· + a) = (ks ++ [v.key]).map (F · (vs ++ [v])) := by
  have hlen : ks.length = (ks.map (F · vs)).length := (List.length_map _).symm
  rw [hlen, modify_append_new, List.map_append]
  congr 1
  · exact List.map_congr_left fun k hk => by
      rw [hF, if_neg fun e : v.key = k => hnot (e ▸ hk), Nat.add_zero]
  · simp [hF, h0]

end step

/-- `countTok`, which depends on the token only through its visit (`countTok_eq`) -/
def countVisit (c : Counts) (v : Visit) : Counts :=
  let (c1, pid) :=
    match lookup v.term (c.dicts.getD v.fid []) with
    | some pid => (c, pid)
    | none =>
      ({ c with dicts := c.dicts.modify v.fid (· ++ [(v.term, c.nT.length)]),
                nT := c.nT ++ [0], nL := c.nL ++ [0] }, c.nT.length)
  { c1 with nT := c1.nT.modify pid (· + 1),
            nL := c1.nL.modify pid (· + v.w),
            totLocs := c1.totLocs + v.w }

theorem countTok_eq (fid : Nat) (c : Counts) (tok : Tok) : countTok fid c tok = countVisit c (tokVisit fid tok) := by
  rfl  -- the term `rfl` would have the two bodies unfolded and compared three times, the tactic once

theorem countVisit_seen {c : Counts} {v : Visit} {pid : Nat}
    (hl : lookup v.term (c.dicts.getD v.fid []) = some pid) :
    countVisit c v = { c with nT := c.nT.modify pid (· + 1), nL := c.nL.modify pid (· + v.w),
                              totLocs := c.totLocs + v.w } := by
  unfold countVisit
  rw [hl]

theorem countVisit_new {c : Counts} {v : Visit} (hl : lookup v.term (c.dicts.getD v.fid []) = none) :
    countVisit c v =
      { c with dicts := c.dicts.modify v.fid (· ++ [(v.term, c.nT.length)]),
               nT := (c.nT ++ [0]).modify c.nT.length (· + 1),
               nL := (c.nL ++ [0]).modify c.nT.length (· + v.w),
               totLocs := c.totLocs + v.w } := by
  unfold countVisit
  rw [hl]

/-- State of the count pass after the visits `vs`, with `ks` the keys in first-sight order
    (`ks[pid]` is the (field, term) of postings list `pid`). -/
structure CInv (nFields : Nat) (c : Counts) (vs : List Visit) (ks : List Key) : Prop where
  nodup : ks.Nodup
  dlen : c.dicts.length = nFields
  look : ∀ fid t pid, lookup t (c.dicts.getD fid []) = some pid ↔ ks[pid]? = some (fid, t)
  nT : c.nT = ks.map (fun k => cntV k vs)
  nL : c.nL = ks.map (fun k => wV k vs)
  mem : ∀ k, k ∈ ks ↔ 0 < cntV k vs
  sumT : c.nT.sum = vs.length
  sumL : c.nL.sum = (vs.map (·.w)).sum
  totL : c.totLocs = (vs.map (·.w)).sum

theorem CInv.lenT {nF : Nat} {c : Counts} {vs : List Visit} {ks : List Key} (h : CInv nF c vs ks) :
    c.nT.length = ks.length := by rw [h.nT]; simp

theorem CInv.lenL {nF : Nat} {c : Counts} {vs : List Visit} {ks : List Key} (h : CInv nF c vs ks) :
    c.nL.length = ks.length := by rw [h.nL]; simp

theorem CInv.look_none {nF : Nat} {c : Counts} {vs : List Visit} {ks : List Key} (h : CInv nF c vs ks)
    (fid : Nat) (t : Bytes) : lookup t (c.dicts.getD fid []) = none ↔ (fid, t) ∉ ks := by
  rw [Option.eq_none_iff_forall_ne_some, List.mem_iff_getElem?, not_exists]
  exact forall_congr' fun pid => not_congr (h.look fid t pid)

theorem cinv_init (tbl : List Name) :
    CInv tbl.length { dicts := tbl.map (fun _ => []), nT := [], nL := [], totTFs := 0, totLocs := 0 } [] [] where
  nodup := List.nodup_nil
  dlen := by simp
  look := by
    intro fid t pid
    rw [List.getD_map_const]
    simp
  nT := rfl
  nL := rfl
  mem := by intro k; simp [cntV]
  sumT := rfl
  sumL := rfl
  totL := rfl

theorem cinv_step (nF : Nat) (c : Counts) (vs : List Visit) (ks : List Key) (v : Visit)
    (h : CInv nF c vs ks) (hv : v.fid < nF) :
    ∃ ks', CInv nF (countVisit c v) (vs ++ [v]) ks' := by
  have hsum : ((vs ++ [v]).map (·.w)).sum = (vs.map (·.w)).sum + v.w := by simp
  cases hl : lookup v.term (c.dicts.getD v.fid []) with
  | some pid =>
    have hk : ks[pid]? = some v.key := (h.look v.fid v.term pid).1 hl
    have hlt : pid < ks.length := (List.getElem?_eq_some_iff.1 hk).1
    rw [countVisit_seen hl]
    refine ⟨ks, ?_⟩
    exact {
      nodup := h.nodup
      dlen := h.dlen
      look := h.look
      nT := by
        rw [h.nT]
        exact modify_map_concat (cntV_concat · vs v) h.nodup hk
      nL := by
        rw [h.nL]
        exact modify_map_concat (wV_concat · vs v) h.nodup hk
      mem := fun k => by
        rw [h.mem k, cntV_concat]
        by_cases e : v.key = k
        · have := (h.mem k).1 (e ▸ List.mem_of_getElem? hk)
          simp [e, this]
        · simp [e]
      sumT := by
        rw [sum_modify_add _ _ _ (h.lenT ▸ hlt), h.sumT, List.length_append]
        rfl
      sumL := by rw [sum_modify_add _ _ _ (h.lenL ▸ hlt), h.sumL, hsum]
      totL := by rw [h.totL, hsum] }
  | none =>
    have hnotin : v.key ∉ ks := (h.look_none v.fid v.term).1 hl
    have hc0 : cntV v.key vs = 0 :=
      Nat.eq_zero_of_not_pos (fun h0 => hnotin ((h.mem v.key).2 h0))
    rw [countVisit_new hl]
    refine ⟨ks ++ [v.key], ?_⟩
    exact {
      nodup := h.nodup.concat hnotin
      dlen := by
        rw [List.length_modify]
        exact h.dlen
      look := fun fid t pid => by
        -- the new pair `(v.term, ks.length)` is found exactly under the new key
        rw [List.getElem?_concat_eq_some, ← h.look, List.getD_modify]
        by_cases hf : v.fid = fid
        · subst hf
          rw [if_pos ⟨rfl, h.dlen ▸ hv⟩, lookup_concat_eq_some, h.lenT]
          refine or_congr Iff.rfl ⟨fun ⟨_, ht, hp⟩ => ⟨hp.symm, by rw [ht]; rfl⟩, fun ⟨hp, hk⟩ => ?_⟩
          have ht : t = v.term := (congrArg Prod.snd hk).symm
          exact ⟨ht ▸ hl, ht, hp.symm⟩
        · rw [if_neg fun h' => hf h'.1]
          exact ⟨Or.inl, fun h' => h'.resolve_right fun ⟨_, hk⟩ => hf (congrArg Prod.fst hk)⟩
      nT := by
        rw [h.lenT, h.nT]
        exact append_map_concat (cntV_concat · vs v) hnotin hc0
      nL := by
        rw [h.lenT, h.nL]
        exact append_map_concat (wV_concat · vs v) hnotin (wV_zero_of_cntV_zero _ _ hc0)
      mem := fun k => by
        rw [List.mem_append, h.mem k, cntV_concat, List.mem_singleton]
        by_cases e : v.key = k
        · simp [e]
        · simp [e, Ne.symm e]
      sumT := by
        rw [modify_append_new, List.sum_append, h.sumT, List.length_append]
        rfl
      sumL := by
        rw [h.lenT, ← h.lenL, modify_append_new, List.sum_append, h.sumL, hsum]
        simp
      totL := by rw [h.totL, hsum] }

/-! ### the nested fold of the count pass

Tokens in field instances in documents: three folds, each extending the list of visits seen. -/

theorem foldl_log {S X V : Type} {P : S → List V → Prop} {step : S → X → S} {out : X → List V}
    (xs : List X) (h : ∀ s vs, ∀ x ∈ xs, P s vs → P (step s x) (vs ++ out x)) (s : S) (vs : List V)
    (h0 : P s vs) : P (xs.foldl step s) (vs ++ xs.flatMap out) := by
  induction xs generalizing s vs with
  | nil => simpa using h0
  | cons x xs ih =>
    rw [List.foldl_cons, List.flatMap_cons, ← List.append_assoc]
    exact ih (fun s vs y hy => h s vs y (List.mem_cons_of_mem _ hy)) _ _ (h s vs x List.mem_cons_self h0)

theorem cinv_fold (nF : Nat) (vs' : List Visit) (c : Counts) (vs : List Visit) (ks : List Key)
    (h : CInv nF c vs ks) (hv : ∀ v ∈ vs', v.fid < nF) :
    ∃ ks', CInv nF (vs'.foldl countVisit c) (vs ++ vs') ks' := by
  have := foldl_log (P := fun c vs => ∃ ks, CInv nF c vs ks) (out := fun v => [v]) vs'
    (fun c vs v hv' ⟨ks, h⟩ => cinv_step nF c vs ks v h (hv v hv')) c vs ⟨ks, h⟩
  rwa [List.flatMap_singleton'] at this

/-- `CInv` does not mention `totTFs`, which `countField` bumps once per field instance. -/
theorem CInv.withTotTFs {nF : Nat} {c : Counts} {vs : List Visit} {ks : List Key} (h : CInv nF c vs ks)
    (x : Nat) : CInv nF { c with totTFs := x } vs ks :=
  ⟨h.nodup, h.dlen, h.look, h.nT, h.nL, h.mem, h.sumT, h.sumL, h.totL⟩

theorem foldl_countVisit_totTFs (vs : List Visit) (c : Counts) : (vs.foldl countVisit c).totTFs = c.totTFs :=
  List.foldl_induction (fun c' : Counts => c'.totTFs = c.totTFs) rfl fun c' v _ h => by
    rw [← h]
    unfold countVisit
    simp only
    split <;> rfl

theorem cinv_countField (tbl : List Name) (c : Counts) (vs : List Visit) (f : FieldIn) (hf : f.name ∈ tbl)
    (h : (∃ ks, CInv tbl.length c vs ks) ∧ c.totTFs = vs.length) :
    (∃ ks, CInv tbl.length (countField tbl c f) (vs ++ fieldVisits tbl f) ks) ∧
      (countField tbl c f).totTFs = (vs ++ fieldVisits tbl f).length := by
  obtain ⟨⟨ks, h⟩, ht⟩ := h
  have e : f.toks.foldl (countTok (fieldIdOf tbl f.name)) c = (fieldVisits tbl f).foldl countVisit c := by
    rw [fieldVisits, List.foldl_map]; rfl
  obtain ⟨ks', h'⟩ := cinv_fold tbl.length (fieldVisits tbl f) c vs ks h (fun v hv => by
    obtain ⟨tok, _, rfl⟩ := List.mem_map.1 hv
    exact fieldIdOf_lt hf)
  refine ⟨⟨ks', ?_⟩, ?_⟩
  · rw [countField, e]; exact h'.withTotTFs _
  · show (f.toks.foldl (countTok (fieldIdOf tbl f.name)) c).totTFs + f.toks.length = _
    rw [e, foldl_countVisit_totTFs, ht, List.length_append, fieldVisits, List.length_map]

/-- The second conjunct is `exact_init`'s `htot` for the freq/norm array: `realloc` makes the array as
    long as the shares it carves add up to.  (For the location array: `CInv.totL` with `CInv.sumL`.) -/
theorem countPass_cinv (b : Batch) :
    ∃ ks, CInv (fieldTable b).length (countPass (fieldTable b) b) (visits (fieldTable b) b) ks ∧
      (countPass (fieldTable b) b).totTFs = (countPass (fieldTable b) b).nT.sum := by
  obtain ⟨⟨ks, h⟩, t⟩ := foldl_log (out := docVisits (fieldTable b)) b
    (P := fun c vs => (∃ ks, CInv (fieldTable b).length c vs ks) ∧ c.totTFs = vs.length)
    (fun c vs d hd h => foldl_log d.visitOrder
      (fun c vs f hf => cinv_countField _ c vs f (names_in_table b d hd f hf)) c vs h)
    _ [] ⟨⟨[], cinv_init (fieldTable b)⟩, rfl⟩
  rw [List.nil_append] at h t
  exact ⟨ks, h, t.trans h.sumT.symm⟩

end Zap.Arr
