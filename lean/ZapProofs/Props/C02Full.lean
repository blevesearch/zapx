/-
  C02 (DocNumbers): the `_id` dictionary of the built segment lists each id under exactly the
  documents carrying it (`Stored.dict_docs_iff`, from the dictionary content `dict_entries` that C01
  rests on too) and is strictly ascending (`buildSeg_dictTerms_sorted`);
  `Stored.docNumbers_abstract` does the rest.
-/
import ZapProofs.Read.Built
import ZapProofs.Props.C02

namespace Zap
open Zap.Stored

/-- C02 (DocNumbers): on the built segment, `DocNumbers(ids)` is exactly the ascending,
    duplicate-free list of the numbers of the documents whose id is requested.
    `hwf`: what `New` requires of a batch; `hid`: bleve's `_id` discipline (one `_id` field per
    document, indexed with the id as its only token). -/
theorem C02_docNumbers_full (vectors : Bool) (mode : Nat) (b : Batch) (hwf : Spec.WF b) (hid : IdWF b)
    (ids : List Bytes) :
    (buildSeg vectors mode b).docNumbers ids = Spec.docNumbers b ids := by
  by_cases hb : b = []
  · subst hb
    rfl  -- no field names on the left, no documents on the right
  · have hne : (buildSeg vectors mode b).fieldNames.isEmpty = false := by
      obtain ⟨rest, htbl, _⟩ := fieldTable_shape b
      rw [Seg.fieldNames, buildSeg_loadedFields vectors mode b hb, buildSeg_names, htbl]
      rfl
    refine docNumbers_abstract _ b hne (buildSeg_dictTerms_sorted vectors mode b idName)
      (fun id k => ?_) ids
    -- under `_id` a document is listed for its own id and no other
    rw [dict_docs_iff vectors mode b hwf]
    refine exists_congr fun hk => ?_
    rw [hasTerm_id_iff vectors (hid b[k] (List.getElem_mem hk))]
    exact eq_comm

/-- … hence: ascending, duplicate free, and exactly the documents whose id is in `ids`. -/
theorem C02_docNumbers_full_spec (vectors : Bool) (mode : Nat) (b : Batch) (hwf : Spec.WF b) (hid : IdWF b)
    (ids : List Bytes) :
    ((buildSeg vectors mode b).docNumbers ids).Pairwise (· < ·) ∧
    ∀ d, d ∈ (buildSeg vectors mode b).docNumbers ids ↔ ∃ h : d < b.length, b[d].id ∈ ids := by
  rw [C02_docNumbers_full vectors mode b hwf hid ids]
  exact C02_docNumbers_spec b ids

namespace C02Ex

/-- the theorem applied (ids out of order, repeated, unknown, above the maximal key) … -/
example : seg.docNumbers [[99], [122, 122], [97], [99], [96]] =
    Spec.docNumbers exB [[99], [122, 122], [97], [99], [96]] :=
  C02_docNumbers_full false 0 exB exB_wf exB_idwf _

/-- … and the right-hand side evaluated -/
example : seg.docNumbers [[99], [122, 122], [97], [99], [96]] = [0, 2] := by
  rw [show seg = buildSeg false 0 exB from rfl, C02_docNumbers_full false 0 exB exB_wf exB_idwf]
  decide +kernel

/-- the empty batch satisfies the hypotheses too (and yields nothing) -/
example : (buildSeg false 0 []).docNumbers [[97]] = [] := by
  rw [C02_docNumbers_full false 0 [] ⟨by simp, by simp, by simp⟩ (by simp [IdWF])]
  rfl

end C02Ex

#print axioms C02_docNumbers_full
#print axioms C02_docNumbers_full_spec

end Zap
