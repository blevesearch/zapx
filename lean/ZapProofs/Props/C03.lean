/-
  C03: doc values.
    (a) content of the doc-value data of a built segment: needs the dictionary content of C01,
        see `C03_content_full`, `C03_visit_built_full` in Props/C03Full;
    (b) the reader state machine of `VisitDocValues` for ANY segment: a visit
        returns the same whatever (legitimately obtained) state it is given
        (`C03_visit_any_order`, `C03_visit_sequence`, `C03_fresh_visit`);
    (c) `VisitableDocValueFields` (`C03_dvFieldNames`).
  Property theorems only; helpers are in ZapProofs.Read.Dv.
-/
import ZapProofs.Read.Dv
import ZapProofs.Read.Stored

namespace Zap
open Zap.Dv Zap.Stored

/-- C03 (fresh state): with no state, a visit of `doc` walks `fields` in order;
    each occurrence of a name contributes (a name listed twice contributes
    twice): nothing if the name is unknown or the field has no doc values,
    otherwise the terms recorded for `doc` in the field's doc-value data, each
    paired with the name.  The chunk size plays no role in the result. -/
theorem C03_fresh_visit (s : Seg) (tag cs : Nat) (fields : List Name) (doc : Nat) :
    (s.visitDocValues tag cs none fields doc).2 =
      fields.flatMap (fun n =>
        match s.fieldId? n with
        | none => []
        | some fid =>
          match (s.fields.getD fid default).dv with
          | none => []
          | some data => (((data.find? (·.1 = doc)).map (·.2)).getD []).map (fun t => (n, t))) :=
  visit_out (fun _ => s) cs fields none trivial tag doc

/-- C03 (any order, state reuse, also across segments).
    `Reach segOf cs fields st` says that `st` is `none` or was returned by a
    visit — on any segment `segOf tag'`, of any document — that itself started
    from such a state, all with the same field list and chunk size.  `segOf`
    models "the tag (Go: the `*SegmentBase` pointer) identifies the segment":
    the visit below is on `s = segOf tag`, and every earlier visit tagged `tag`
    was on the same `s`; visits with other tags were on arbitrary other
    segments.  Then the visit returns exactly what a visit without state
    returns.  Holds for every chunk size (also 0) and every segment, built or not. -/
theorem C03_visit_any_order (segOf : Nat → Seg) (s : Seg) (tag cs : Nat) (htag : segOf tag = s)
    (fields : List Name) (st : Option DvState) (hst : Reach segOf cs fields st) (doc : Nat) :
    (s.visitDocValues tag cs st fields doc).2 = (s.visitDocValues tag cs none fields doc).2 := by
  subst htag
  rw [visit_out segOf cs fields st hst.inv tag doc, visit_out segOf cs fields none trivial tag doc]

/-- C03 (a whole session): any sequence of visits `(tag, doc)` — any order,
    repeats, switching segments — threaded through one state that starts from
    any reachable state returns, visit by visit, what stateless visits return. -/
theorem C03_visit_sequence (segOf : Nat → Seg) (cs : Nat) (fields : List Name) (st : Option DvState)
    (hst : Reach segOf cs fields st) (visits : List (Nat × Nat)) :
    runVisits segOf cs fields st visits =
      visits.map (fun p => ((segOf p.1).visitDocValues p.1 cs none fields p.2).2) := by
  rw [runVisits_eq segOf cs fields visits st hst.inv]
  apply List.map_congr_left
  intro p _
  exact (visit_out segOf cs fields none trivial p.1 p.2).symm

/-- C03 (the invariant behind it): in a reachable state that belongs to segment
    `segOf tag`, every reader that claims to hold chunk `c` holds exactly the
    entries of chunk `c` of its field's doc-value data. -/
theorem C03_reader_invariant (segOf : Nat → Seg) (cs : Nat) (fields : List Name) (st : DvState)
    (hst : Reach segOf cs fields (some st)) (tag : Nat) (rs : List DvReader)
    (htag : st.segTag = some tag) (hrs : st.readers = some rs) :
    ∀ r ∈ rs, ∀ c, r.curChunk = some c →
      r.cache = dvChunk ((((segOf tag).fields.getD r.fid default).dv).getD []) cs c :=
  (hst.inv tag rs htag hrs).1

/-- C03 (`VisitableDocValueFields`): the names of the field table that are
    indexed with doc values somewhere in the batch, in table order. -/
theorem C03_dvFieldNames (vectors : Bool) (mode : Nat) (b : Batch) :
    (buildSeg vectors mode b).dvFieldNames = (fieldTable b).filter (includeDocValues b) := by
  have hn : (buildSeg vectors mode b).numDocs = b.length := rfl
  by_cases hb : b = []
  · subst hb
    rfl
  · have hlen : b.length ≠ 0 := by simpa using hb
    unfold Seg.dvFieldNames
    rw [hn, if_neg hlen, buildSeg_loadedFields vectors mode b hb, ← buildSeg_names vectors mode b,
      List.filter_map]
    refine congrArg (List.map _) ?_
    -- a field record carries doc-value data iff its name is indexed with doc values
    refine List.filter_congr fun f hf => ?_
    obtain ⟨terms, _, hdv⟩ := buildSeg_field_shape hf
    show f.dv.isSome = includeDocValues b f.name
    rw [hdv]
    cases includeDocValues b f.name <;> rfl

/-! ### Concrete data

A 3-document batch with a multi-valued doc-value field `tag` (document 2 has
two instances of it), a field without doc values, chunk size 2, and the visits
2, 0, 2, 1 through one state; then the same on two segments alternately. -/

namespace C03Ex

def tk (s : String) : Tok := { term := strBytes s, freq := 1, locs := [] }
def idF (s : String) : FieldIn := { name := idName, stored := true, val := strBytes s, toks := [tk s] }
def tagN : Name := strBytes "tag"
def bodyN : Name := strBytes "body"

def exB : Batch := [
  { id := strBytes "a", fields := [idF "a", { name := tagN, dv := true, toks := [tk "y", tk "x"] }] },
  { id := strBytes "b", fields := [idF "b", { name := bodyN, toks := [tk "q"] }] },
  { id := strBytes "c", fields := [idF "c", { name := tagN, dv := true, toks := [tk "z"] },
                                   { name := tagN, dv := true, toks := [tk "x", tk "w"] }] } ]

/-- a second, different batch (for the cross-segment session) -/
def exB2 : Batch := [
  { id := strBytes "p", fields := [idF "p", { name := tagN, dv := true, toks := [tk "m"] }] },
  { id := strBytes "q", fields := [idF "q", { name := tagN, dv := true, toks := [tk "n", tk "m"] }] } ]

def seg1 : Seg := buildSeg false 0 exB
def seg2 : Seg := buildSeg false 0 exB2
def flds : List Name := [tagN, strBytes "nope", bodyN, tagN]
def one : Nat → Seg := fun _ => seg1
def two : Nat → Seg := fun t => if t = 0 then seg1 else seg2

def x : Bytes := [120]
def w : Bytes := [119]
def y : Bytes := [121]
def z : Bytes := [122]

/-- the state after the visits 2, 0, 2 is reachable (hypothesis of the theorems is satisfiable) -/
example : Reach one 2 flds
    (some (seg1.visitDocValues 0 2
      (some (seg1.visitDocValues 0 2 (some (seg1.visitDocValues 0 2 none flds 2).1) flds 0).1) flds 2).1) :=
  Reach.visit (segOf := one) 0 2 (Reach.visit (segOf := one) 0 0 (Reach.visit (segOf := one) 0 2 Reach.init))

/-- … and that state really carries a loaded chunk (chunk 1 = documents 2, 3) -/
example : ((seg1.visitDocValues 0 2
      (some (seg1.visitDocValues 0 2 (some (seg1.visitDocValues 0 2 none flds 2).1) flds 0).1) flds 2).1).readers
    = some [{ fid := 2, curChunk := some 1, cache := [(2, [w, x, z])] }] := by decide +kernel

/-- visits 2, 0, 2, 1 through one state: `tag` is listed twice, hence delivered
    twice; `nope` is unknown and `body` has no doc values; document 1 has none. -/
example : runVisits one 2 flds none [(0, 2), (0, 0), (0, 2), (0, 1)] =
    [ [(tagN, w), (tagN, x), (tagN, z), (tagN, w), (tagN, x), (tagN, z)],
      [(tagN, x), (tagN, y), (tagN, x), (tagN, y)],
      [(tagN, w), (tagN, x), (tagN, z), (tagN, w), (tagN, x), (tagN, z)],
      [] ] := by decide +kernel

/-- the same session, visit by visit, against stateless visits (both sides of `C03_visit_sequence`) -/
example : runVisits one 2 flds none [(0, 2), (0, 0), (0, 2), (0, 1)] =
    [(0, 2), (0, 0), (0, 2), (0, 1)].map (fun p => ((one p.1).visitDocValues p.1 2 none flds p.2).2) := by
  decide +kernel

/-- … and against the specification (both sides of `C03_visit_built_full`) -/
example : runVisits one 2 flds none [(0, 2), (0, 0), (0, 2), (0, 1)] =
    [2, 0, 2, 1].map (fun d => flds.flatMap (fun n => (Spec.docValues false exB n d).map (fun t => (n, t)))) := by
  decide +kernel

/-- one state carried across two segments alternately -/
example : runVisits two 2 flds none [(0, 2), (1, 1), (0, 2), (1, 0), (1, 1), (0, 0)] =
    [(0, 2), (1, 1), (0, 2), (1, 0), (1, 1), (0, 0)].map
      (fun p => ((two p.1).visitDocValues p.1 2 none flds p.2).2) := by decide +kernel

/-- The hypothesis "same field list" of `Reach` is needed (and this is the real
    API's behaviour too: the readers are created from the field list of the
    first visit): a state obtained with another field list hides `tag`. -/
example : (seg1.visitDocValues 0 2 (some (seg1.visitDocValues 0 2
        (some (seg1.visitDocValues 0 2 none [bodyN] 0).1) [bodyN] 0).1) [tagN] 0).2 = [] ∧
    (seg1.visitDocValues 0 2 none [tagN] 0).2 = [(tagN, x), (tagN, y)] := by decide +kernel

/-- `VisitableDocValueFields` on the example (both sides of `C03_dvFieldNames`) -/
example : seg1.dvFieldNames = [tagN] ∧ (fieldTable exB).filter (includeDocValues exB) = [tagN] := by
  decide +kernel

/-- the doc-value data of `tag` (cf. `C03_content_full`) -/
theorem exB_dv : (seg1.field? tagN).map (·.dv) = some (some [(0, [x, y]), (2, [w, x, z])]) := by
  decide +kernel

example : (seg1.field? tagN).map (·.dv) = some (some [(0, [x, y]), (2, [w, x, z])]) := exB_dv

/-! Geo-shape fields: the encoded shape is one more doc value, after the terms.
Document 0 has terms and a shape, document 1 only a shape (no terms at all),
document 2 three instances of the field - shapes `aa`, then `bbcc`, then none:
the last shape wins -, document 3 has neither and gets no entry.  (The real
code's answers on this batch: `geo=6869,78,79`, `geo=0102`, `geo=77,7a,bbcc`, `-`.) -/

def geoN : Name := strBytes "geo"

def exG : Batch := [
  { id := strBytes "a", fields := [idF "a",
      { name := geoN, dv := true, toks := [tk "y", tk "x"], shape := some [0x68, 0x69] }] },
  { id := strBytes "b", fields := [idF "b", { name := geoN, dv := true, shape := some [0x01, 0x02] }] },
  { id := strBytes "c", fields := [{ name := geoN, dv := true, toks := [tk "z"], shape := some [0xaa] }, idF "c",
      { name := geoN, dv := true, toks := [tk "w"], shape := some [0xbb, 0xcc] },
      { name := geoN, dv := true, toks := [tk "z"] }] },
  { id := strBytes "d", fields := [idF "d"] } ]

def segG : Seg := buildSeg false 0 exG

/-- the doc-value data of `geo` in the built segment -/
theorem exG_dv : (segG.field? geoN).map (·.dv) =
    some (some [(0, [x, y, [0x68, 0x69]]), (1, [[0x01, 0x02]]), (2, [w, z, [0xbb, 0xcc]])]) := by decide +kernel

/-- visiting it, document by document (4 is beyond the batch), through one state -/
example : runVisits (fun _ => segG) 2 [geoN] none [(0, 0), (0, 1), (0, 2), (0, 3), (0, 4), (0, 1)] =
    [ [(geoN, x), (geoN, y), (geoN, [0x68, 0x69])],
      [(geoN, [0x01, 0x02])],
      [(geoN, w), (geoN, z), (geoN, [0xbb, 0xcc])],
      [], [],
      [(geoN, [0x01, 0x02])] ] := by decide +kernel

/-- … and the specification says the same -/
example : [0, 1, 2, 3, 4].map (Spec.docValues false exG geoN) =
    [[x, y, [0x68, 0x69]], [[0x01, 0x02]], [w, z, [0xbb, 0xcc]], [], []] := by decide +kernel

end C03Ex

#print axioms C03_fresh_visit
#print axioms C03_visit_any_order
#print axioms C03_visit_sequence
#print axioms C03_reader_invariant
#print axioms C03_dvFieldNames

end Zap
