/-
  Lemmas for ZapModel.Theory.Pool: if every call word is `Balanced`, the pool invariant
  holds in every reachable state of every schedule.
-/
import ZapModel.Theory.Pool
import ZapProofs.Theory.Update

namespace Zap.Theory.Pool
open Zap.Gen

/-- `Balanced` made inductive: the per-thread automaton saying which remaining event lists (tails of
    concatenated balanced words) are fine in which phase. -/
def accept : Phase → List PoolEv → Bool
  | _, [] => true
  | .idle, .get :: w => accept .holding w
  | .idle, .ret :: w => accept .idle w
  | .holding, .use :: w => accept .holding w
  | .holding, .put :: w => accept .done w
  | .holding, .ret :: w => accept .idle w
  | .done, .ret :: w => accept .idle w
  | _, _ => false

theorem accept_usesThenEnd (w r : List PoolEv) (h : usesThenEnd w = true) :
    accept .holding (w ++ r) = accept .idle r := by
  induction w with
  | nil => simp [usesThenEnd] at h
  | cons e w ih =>
    cases e with
    | get => simp [usesThenEnd] at h
    | use => simp only [usesThenEnd] at h; simp [accept, ih h]
    | put =>
      simp only [usesThenEnd, beq_iff_eq] at h
      subst h; simp [accept]
    | ret =>
      simp only [usesThenEnd, List.isEmpty_iff] at h
      subst h; simp [accept]

theorem accept_balanced (w r : List PoolEv) (h : Balanced w = true) :
    accept .idle (w ++ r) = accept .idle r := by
  cases w with
  | nil => simp [Balanced] at h
  | cons e w =>
    cases e with
    | get => simp only [Balanced] at h; simp [accept, accept_usesThenEnd w r h]
    | use => simp [Balanced] at h
    | put => simp [Balanced] at h
    | ret =>
      simp only [Balanced, List.isEmpty_iff] at h
      subst h; simp [accept]

theorem accept_flatten (ws : List (List PoolEv)) (h : ∀ w ∈ ws, Balanced w = true) :
    accept .idle ws.flatten = true := by
  induction ws with
  | nil => rfl
  | cons w ws ih =>
    rw [List.flatten_cons, accept_balanced w _ (h w List.mem_cons_self)]
    exact ih (fun w' hw' => h w' (List.mem_cons_of_mem _ hw'))

structure Inv (s : State) : Prop where
  nodup : s.pool.Nodup
  excl : ∀ i j o, holds (s.thr i) o → holds (s.thr j) o → i = j
  notin : ∀ i o, holds (s.thr i) o → o ∉ s.pool
  lt_pool : ∀ o ∈ s.pool, o < s.fresh
  lt_held : ∀ i o, holds (s.thr i) o → o < s.fresh
  ok : ∀ i, accept (s.thr i).ph (s.thr i).rest = true
  hasptr : ∀ i, (s.thr i).ph = .holding → ∃ o, (s.thr i).ptr = some o

theorem inv_init (progs : Nat → List (List PoolEv))
    (h : ∀ i, ∀ w ∈ progs i, Balanced w = true) : Inv (init progs) where
  nodup := List.nodup_nil
  excl := by intro i j o hi; simp [init, holds] at hi
  notin := by intro i o hi; simp [init, holds] at hi
  lt_pool := by intro o ho; simp [init] at ho
  lt_held := by intro i o hi; simp [init, holds] at hi
  ok := by intro i; exact accept_flatten _ (h i)
  hasptr := by intro i hi; simp [init] at hi

theorem accept_get {p : Phase} {r : List PoolEv} (h : accept p (.get :: r) = true) :
    p = .idle ∧ accept .holding r = true := by
  cases p <;> simp_all [accept]

theorem accept_use {p : Phase} {r : List PoolEv} (h : accept p (.use :: r) = true) :
    p = .holding ∧ accept .holding r = true := by
  cases p <;> simp_all [accept]

theorem accept_put {p : Phase} {r : List PoolEv} (h : accept p (.put :: r) = true) :
    p = .holding ∧ accept .done r = true := by
  cases p <;> simp_all [accept]

theorem accept_ret {p : Phase} {r : List PoolEv} (h : accept p (.ret :: r) = true) :
    accept .idle r = true := by
  cases p <;> simp_all [accept]

@[simp] theorem setThr_same (f : Nat → Thread) (i : Nat) (t : Thread) : setThr f i t i = t := by
  simp [setThr]

theorem setThr_other (f : Nat → Thread) (i j : Nat) (t : Thread) (h : j ≠ i) :
    setThr f i t j = f j := by
  simp [setThr, h]

theorem holds_setThr (f : Nat → Thread) (i j : Nat) (t : Thread) (o : Nat) :
    holds (setThr f i t j) o ↔ (j = i ∧ holds t o) ∨ (j ≠ i ∧ holds (f j) o) := by
  unfold setThr
  split <;> simp [*]

theorem Inv.update {s : State} (hI : Inv s) (i : Nat) (t : Thread) (pool : List Nat) (fresh : Nat)
    (hnodup : pool.Nodup) (hpool : ∀ o ∈ pool, o < fresh) (hfresh : s.fresh ≤ fresh)
    (hothers : ∀ j, j ≠ i → ∀ o, holds (s.thr j) o → o ∉ pool)
    (hself : ∀ o, holds t o → o < fresh ∧ o ∉ pool ∧ ∀ j, j ≠ i → ¬ holds (s.thr j) o)
    (hacc : accept t.ph t.rest = true) (hptr : t.ph = .holding → ∃ o, t.ptr = some o) :
    Inv { pool := pool, fresh := fresh, thr := setThr s.thr i t } where
  nodup := hnodup
  excl := by
    intro a b o ha hb
    rcases (holds_setThr ..).mp ha with ⟨rfl, hat⟩ | ⟨hai, has⟩ <;>
      rcases (holds_setThr ..).mp hb with ⟨rfl, hbt⟩ | ⟨hbi, hbs⟩
    · rfl
    · exact absurd hbs ((hself o hat).2.2 b hbi)
    · exact absurd has ((hself o hbt).2.2 a hai)
    · exact hI.excl a b o has hbs
  notin := by
    intro a o ha
    rcases (holds_setThr ..).mp ha with ⟨_, ha⟩ | ⟨hai, ha⟩
    · exact (hself o ha).2.1
    · exact hothers a hai o ha
  lt_pool := hpool
  lt_held := by
    intro a o ha
    rcases (holds_setThr ..).mp ha with ⟨_, ha⟩ | ⟨_, ha⟩
    · exact (hself o ha).1
    · exact Nat.lt_of_lt_of_le (hI.lt_held a o ha) hfresh
  ok := forall_update (P := fun _ t => accept t.ph t.rest = true) _ i t hacc fun j _ => hI.ok j
  hasptr := forall_update (P := fun _ t => t.ph = .holding → ∃ o, t.ptr = some o) _ i t hptr
    fun j _ => hI.hasptr j

theorem step_nil (s : State) (i : Nat) (c : Option Nat) (h : (s.thr i).rest = []) :
    step s i c = s := by simp [step, h]

theorem step_get_pool (s : State) (i : Nat) (c : Option Nat) (r : List PoolEv) (o : Nat)
    (h : (s.thr i).rest = .get :: r) (hc : Option.filter (fun o => s.pool.contains o) c = some o) :
    step s i c = { s with pool := s.pool.erase o,
                          thr := setThr s.thr i ⟨some o, .holding, r⟩ } := by
  simp only [step, h, hc]

theorem step_get_fresh (s : State) (i : Nat) (c : Option Nat) (r : List PoolEv)
    (h : (s.thr i).rest = .get :: r) (hc : Option.filter (fun o => s.pool.contains o) c = none) :
    step s i c = { pool := s.pool, fresh := s.fresh + 1,
                   thr := setThr s.thr i ⟨some s.fresh, .holding, r⟩ } := by
  simp only [step, h, hc]

theorem step_use (s : State) (i : Nat) (c : Option Nat) (r : List PoolEv)
    (h : (s.thr i).rest = .use :: r) :
    step s i c = { s with thr := setThr s.thr i { s.thr i with rest := r } } := by
  simp only [step, h]

theorem step_put_some (s : State) (i : Nat) (c : Option Nat) (r : List PoolEv) (o : Nat)
    (h : (s.thr i).rest = .put :: r) (hp : (s.thr i).ptr = some o) :
    step s i c = { s with pool := o :: s.pool, thr := setThr s.thr i ⟨some o, .done, r⟩ } := by
  simp only [step, h, hp]

theorem step_ret (s : State) (i : Nat) (c : Option Nat) (r : List PoolEv)
    (h : (s.thr i).rest = .ret :: r) :
    step s i c = { s with thr := setThr s.thr i ⟨none, .idle, r⟩ } := by
  simp only [step, h]

theorem inv_step (s : State) (i : Nat) (c : Option Nat) (hI : Inv s) : Inv (step s i c) := by
  have hok := hI.ok i
  have hexcl : ∀ o, holds (s.thr i) o → ∀ j, j ≠ i → ¬ holds (s.thr j) o :=
    fun o hio j hj hjo => hj (hI.excl j i o hjo hio)
  generalize hrest : (s.thr i).rest = rest at hok
  cases rest with
  | nil => rw [step_nil s i c hrest]; exact hI
  | cons e r =>
    cases e with
    | get =>
      obtain ⟨-, hacc⟩ := accept_get hok
      cases hc : Option.filter (fun o => s.pool.contains o) c with
      | some o =>
        have hmem : o ∈ s.pool := by
          simpa using (Option.filter_eq_some_iff.mp hc).2
        rw [step_get_pool s i c r o hrest hc]
        refine hI.update i _ _ _ (hI.nodup.erase o)
          (fun o' ho' => hI.lt_pool o' (List.mem_of_mem_erase ho')) (Nat.le_refl _)
          (fun j _ o' hj hm => hI.notin j o' hj (List.mem_of_mem_erase hm))
          ?_ hacc (fun _ => ⟨o, rfl⟩)
        rintro o' ⟨_, ho'⟩
        obtain rfl : o = o' := Option.some.inj ho'
        exact ⟨hI.lt_pool o hmem, hI.nodup.not_mem_erase, fun j _ hj => hI.notin j o hj hmem⟩
      | none =>
        -- what `lt_pool` and `lt_held` are in the invariant for: the new object `s.fresh` is above
        -- everything pooled or held
        rw [step_get_fresh s i c r hrest hc]
        refine hI.update i _ _ _ hI.nodup
          (fun o' ho' => Nat.lt_succ_of_lt (hI.lt_pool o' ho')) (Nat.le_succ _)
          (fun j _ => hI.notin j) ?_ hacc (fun _ => ⟨s.fresh, rfl⟩)
        rintro o' ⟨_, ho'⟩
        obtain rfl : s.fresh = o' := Option.some.inj ho'
        exact ⟨Nat.lt_succ_self _, fun hm => Nat.lt_irrefl _ (hI.lt_pool _ hm),
          fun j _ hj => Nat.lt_irrefl _ (hI.lt_held j _ hj)⟩
    | use =>
      obtain ⟨hhold, hacc⟩ := accept_use hok
      rw [step_use s i c r hrest]
      exact hI.update i _ _ _ hI.nodup hI.lt_pool (Nat.le_refl _) (fun j _ => hI.notin j)
        (fun o hio => ⟨hI.lt_held i o hio, hI.notin i o hio, hexcl o hio⟩)
        (hhold ▸ hacc) (hI.hasptr i)
    | put =>
      obtain ⟨hhold, hacc⟩ := accept_put hok
      obtain ⟨o, ho⟩ := hI.hasptr i hhold
      have hio : holds (s.thr i) o := ⟨hhold, ho⟩
      rw [step_put_some s i c r o hrest ho]
      refine hI.update i _ _ _ (List.nodup_cons.mpr ⟨hI.notin i o hio, hI.nodup⟩) ?_
        (Nat.le_refl _) ?_ (fun o' h => nomatch h.1) hacc (fun h => nomatch h)
      · intro o' ho'
        rcases List.mem_cons.mp ho' with rfl | h
        · exact hI.lt_held i _ hio
        · exact hI.lt_pool o' h
      · intro j hj o' hjo hm
        rcases List.mem_cons.mp hm with rfl | h
        · exact hexcl _ hio j hj hjo
        · exact hI.notin j o' hjo h
    | ret =>
      rw [step_ret s i c r hrest]
      exact hI.update i _ _ _ hI.nodup hI.lt_pool (Nat.le_refl _) (fun j _ => hI.notin j)
        (fun o' h => nomatch h.1) (accept_ret hok) (fun h => nomatch h)

theorem safe_of_inv (s : State) (hI : Inv s) : Safe s where
  no_two_holders := hI.excl
  pool_nodup := hI.nodup
  not_held_and_pooled := hI.notin
  use_by_unique_holder := by
    intro i r hr
    have hhold : (s.thr i).ph = .holding := (accept_use (hr ▸ hI.ok i)).1
    obtain ⟨o, ho⟩ := hI.hasptr i hhold
    exact ⟨o, ⟨hhold, ho⟩, fun j hj => hI.excl j i o hj ⟨hhold, ho⟩, hI.notin i o ⟨hhold, ho⟩⟩

/-- Any number of threads, each running any sequence of calls whose words are all `Balanced`: in
    EVERY interleaving (the schedule also chooses which pooled object a `Get` returns) every
    reachable state is safe. -/
theorem pool_safe (progs : Nat → List (List PoolEv))
    (hbal : ∀ i, ∀ w ∈ progs i, Balanced w = true) (sched : Sched) :
    Safe (exec (init progs) sched) :=
  safe_of_inv _ <|
    List.foldlRecOn sched _ (inv_init progs hbal) fun s hI x _ => inv_step s x.1 x.2 hI

theorem pool_safe_list (progs : List (List (List PoolEv)))
    (hbal : ∀ p ∈ progs, ∀ w ∈ p, Balanced w = true) (sched : Sched) :
    Safe (exec (initL progs) sched) := by
  apply pool_safe
  intro i w hw
  by_cases hi : i < progs.length
  · have : progs.getD i [] = progs[i] := by simp [List.getD, hi]
    rw [this] at hw
    exact hbal _ (List.getElem_mem hi) w hw
  · have : progs.getD i [] = [] := by simp [List.getD, Nat.le_of_not_lt hi]
    rw [this] at hw; cases hw

end Zap.Theory.Pool
