/-
  C08, the key range: `[start, end)` is empty whenever `start` is not below `end` - for every
  dictionary, automaton and scratch state the enumeration returns nothing (defect D10: the pinned
  tree returned `end` itself when it was a term; fixed).  Also: a term equal to `end` is never
  returned.
-/
import ZapProofs.Props.C08
import ZapProofs.Base.Basic

namespace Zap

theorem inRange_empty (lo hi t : Bytes) (h : Bytes.lt lo hi = false) :
    inRange (some lo) (some hi) t = false := by
  rw [Bool.eq_false_iff]
  intro hin
  simp only [inRange, Bool.and_eq_true, Bytes.le_iff, Bytes.lt_iff] at hin
  -- `lo ≤ t < hi` would put `lo` below `hi`
  rw [Bytes.lt_iff.2 (List.lt_of_le_of_lt hin.1 hin.2)] at h
  cases h

/-- C08 (empty ranges): nothing is enumerated when `start` is not below `end`. -/
theorem C08_empty_range (accept : Bytes → Bool) (lo hi : Bytes) (h : Bytes.lt lo hi = false)
    (terms : List (Bytes × PostRep)) (hwf : ∀ p ∈ terms, RepWF p.2) (sc : Scratch) :
    dictIterate true accept (some lo) (some hi) sc terms = [] := by
  rw [C08_dict accept (some lo) (some hi) terms hwf sc]
  simp [inRange_empty lo hi _ h]

/-- C08 (exclusive end): the end key itself is never returned. -/
theorem C08_end_exclusive (accept : Bytes → Bool) (lo : Option Bytes) (hi : Bytes)
    (terms : List (Bytes × PostRep)) (hwf : ∀ p ∈ terms, RepWF p.2) (sc : Scratch) :
    ∀ e ∈ dictIterate true accept lo (some hi) sc terms, e.1 ≠ hi := by
  rw [C08_dict accept lo (some hi) terms hwf sc]
  intro e he
  simp only [List.mem_map, List.mem_filter] at he
  obtain ⟨p, ⟨_, hp⟩, rfl⟩ := he
  intro heq
  simp only [inRange, Bool.and_eq_true] at hp
  have := hp.2.2
  simp only at heq
  rw [heq, Bytes.lt_irrefl] at this
  exact Bool.noConfusion this

end Zap

#print axioms Zap.C08_empty_range
#print axioms Zap.C08_end_exclusive
