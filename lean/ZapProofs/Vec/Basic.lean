/-
  ZapProofs.Vec.Basic: what the vector modules share: a few list lemmas, and `docOK`, the one
  normal form of the filter of `admissible` (ZapModel.Vector).
-/
import ZapModel.Vector
import ZapProofs.Base.List

namespace Zap.VecL

section Lists

/-- a list `R` that holds the images of the part `p` of `A` misses at most as many distinct
    images of `A` as there are elements outside the part -/
theorem dupcount {α β} [BEq β] [LawfulBEq β] (A : List α) (p : α → Bool) (g : α → β) (R : List β)
    (hR : ∀ a ∈ A, p a = true → g a ∈ R) :
    (A.map g).eraseDups.length + (A.filter p).length ≤ R.length + A.length := by
  have hlen := (List.filter_append_perm p A).length_eq
  simp only [List.length_append] at hlen
  have hsub : (A.map g).eraseDups ⊆ R ++ (A.filter (fun a => !p a)).map g := by
    intro b hb
    rw [List.mem_eraseDups, List.mem_map] at hb
    obtain ⟨a, ha, rfl⟩ := hb
    rw [List.mem_append]
    by_cases hp : p a
    · exact Or.inl (hR a ha hp)
    · exact Or.inr (List.mem_map.2 ⟨a, List.mem_filter.2 ⟨ha, by simpa using hp⟩, rfl⟩)
  have := (List.nodup_eraseDups (A.map g)).length_le_of_subset hsub
  simp only [List.length_append, List.length_map] at this
  omega

theorem map_map_comm {α β} (p : α → β) (g : α → α) (g' : β → β) (h : ∀ a, p (g a) = g' (p a))
    (l : List α) : (l.map g).map p = (l.map p).map g' := by
  rw [List.map_map, List.map_map]
  exact List.map_congr_left (fun a _ => h a)

theorem map_map_of_proj {α β} (p : α → β) (g : α → α) (h : ∀ a, p (g a) = p a) (l : List α) :
    (l.map g).map p = l.map p :=
  (map_map_comm p g id h l).trans (List.map_id _)

theorem length_filter_push {α} (p : α → Bool) (l : List α) (a : α) :
    ((l ++ [a]).filter p).length = (l.filter p).length + (if p a then 1 else 0) := by
  rw [← List.countP_eq_length_filter, ← List.countP_eq_length_filter, List.countP_append,
    List.countP_singleton]

theorem length_filter_erase {α} [BEq α] [LawfulBEq α] (p : α → Bool) (l : List α) (a : α)
    (h : a ∈ l) : ((l.erase a).filter p).length + (if p a then 1 else 0) = (l.filter p).length := by
  rw [← List.countP_eq_length_filter, ← List.countP_eq_length_filter,
    (List.perm_cons_erase h).countP_eq p, List.countP_cons]

theorem contains_range_filter (n d : Nat) (f : Nat → Bool) (hd : d < n) :
    ((List.range n).filter f).contains d = f d := by
  rw [Bool.eq_iff_iff, List.contains_iff_mem, List.mem_filter, List.mem_range]
  exact and_iff_right hd

end Lists

/-- the two tests of `admissible`'s filter: not excluded, eligible (`none` = no restriction) -/
def exOK : Option (List Nat) → Nat → Bool
  | none, _ => true
  | some l, d => !l.contains d
def elOK : Option (List Nat) → Nat → Bool
  | none, _ => true
  | some l, d => l.contains d

/-- the documents a search with exclusion `ex` and filter argument `elig` may return -/
def docOK (ex elig : Option (List Nat)) (d : Nat) : Bool := exOK ex d && elOK elig d

theorem docOK_some_left {ex : List Nat} {elig : Option (List Nat)} {d : Nat}
    (h : docOK (some ex) elig d = true) : d ∉ ex := by
  simpa [docOK, exOK] using (Bool.and_eq_true_iff.1 h).1

theorem docOK_some_right {ex : Option (List Nat)} {el : List Nat} {d : Nat}
    (h : docOK ex (some el) d = true) : d ∈ el := by
  simpa [docOK, elOK] using (Bool.and_eq_true_iff.1 h).2

theorem admissible_docOK (ix : VecIx) (q : List Int) (ex elig : Option (List Nat)) :
    admissible ix q ex elig = (ix.vecs.filter (fun dv => docOK ex elig dv.1)).map
      (fun dv => ({ doc := dv.1, score := vscore ix.metric q dv.2 } : VHit)) := by
  cases ex <;> cases elig <;> rfl

theorem admissible_congr (ix : VecIx) (q : List Int) (ex el ex' el' : Option (List Nat))
    (h : ∀ dv ∈ ix.vecs, docOK ex el dv.1 = docOK ex' el' dv.1) :
    admissible ix q ex el = admissible ix q ex' el' := by
  rw [admissible_docOK, admissible_docOK, List.filter_congr h]

end Zap.VecL
