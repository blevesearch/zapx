/-
  C11 (concurrent readers): the two clauses that are properties of the synchronisation
  skeleton, instantiated on facts extracted from /repo on every run.

  (1) POOL SAFETY.  `Theory.Pool.pool_safe` (ZapProofs/Theory/Pool.lean), instantiated: every
      extracted path of every user of `visitDocumentCtxPool` / `interimPool` is `Balanced`, and
      the users are exactly the four expected functions.
  (2) LOCKSET EXCLUSION (also used by C16 and C20).  `Theory.Lock.lockset_excludes`
      (ZapProofs/Theory/Lock.lean), instantiated on the extracted accesses to
      `SegmentBase.fieldFSTs`, `synonymIndexCache.cache`, `vectorIndexCache.cache`, `Segment.refs`.

  MODELLED, NOT VERIFIED
  * Atomic steps at the granularity of extracted events (`get`/`use`/`put`/`ret`); the Go
    memory model, `sync.Pool`'s per-P caches and its victim cache are outside.  `sync.Pool`
    dropping objects at GC only shrinks the pool and is covered by "a missing put is allowed".
  * The words are the extractor's path abstraction (tools/README.md item 4: callees that
    receive the object are inlined, `defer` replayed before each return, loops cut at two
    iterations, aliasing / escaping pointers are blind spots).  That the running code follows
    one of the extracted paths is by reading and by the differential/concurrent runs.
  * Threads of one pool only interact through that pool; a thread's calls to users of the other
    pool are invisible to this pool, hence the theorem is stated per pool.
  * Locks: an access is two atomic steps (enter / leave); `sync.RWMutex` is modelled as
    writer-exclusive / reader-shared with no fairness.  A `LockFact` only says which locks the
    extractor saw held AT the access; the call word given to it here is
    `acquire held ; access ; release held` (`callWord`).  That the lock is the same object for
    all accesses (the mutex field of the same struct value) is the extractor's "same base
    expression" rule (tools/README.md item 9).
  * ASSUMPTION (LOCKED convention): functions named `*LOCKED` are called only with `m` held
    exclusively; the extractor reports `"m(LOCKED-convention)"` and this file treats it as
    `"m"`.  By reading: `createAndCacheLOCKED` is called from `synonymIndexCache.loadOrCreate` /
    `vectorIndexCache.loadFromCache` after `m.Lock()`; `addDocVecIDMapToCacheLOCKED` from
    `loadFromCache` after `m.Lock()` and from `createAndCacheLOCKED`; `insertLOCKED` only from
    `createAndCacheLOCKED`.
  * The Go memory model (happens-before through Lock/Unlock) is outside; so are accesses the
    extractor does not attribute (aliases of the map, callees two levels down).
-/
import ZapModel.Gen.Facts
import ZapModel.Theory.Str
import ZapProofs.Theory.Pool
import ZapProofs.Theory.Lock

namespace Zap.C11
open Zap.Gen Zap.Gen.PoolEv Zap.Theory Zap.Theory.Pool

/-- The pool users that must be present (function, pool), in the extractor's (sorted) order. -/
def expectedPoolUsers : List (String × String) := [
  ("SegmentBase.DocID", "visitDocumentCtxPool"),
  ("SegmentBase.VisitStoredFields", "visitDocumentCtxPool"),
  ("ZapPlugin.newWithChunkMode", "interimPool"),
  ("mergeStoredAndRemap", "visitDocumentCtxPool")
]

/-- Decidable side condition on the extracted pool facts:
    * the users are EXACTLY the expected four (a deleted or a new user fails),
    * no name is an extraction-failure marker,
    * every user has at least one path, one path that really takes an object (`get`) and one
      that gives it back (`put`) - so the condition is not satisfied by empty words,
    * every path of every user is `Balanced`. -/
def poolSideCondition (fs : List PoolFn) : Bool :=
  (fs.map fun f => (f.fn, f.pool)) == expectedPoolUsers
  && fs.all fun f =>
      !unrec f.fn && !unrec f.pool
      && !f.paths.isEmpty
      && f.paths.any (·.contains .get) && f.paths.any (·.contains .put)
      && f.paths.all Balanced

/-- INSTANCE: the obligation that breaks when the Go source changes. -/
theorem poolSideCondition_holds : poolSideCondition Facts.poolFns = true := by decide +kernel

/-- The clauses of `poolSideCondition`, by name: a violating table is refuted at the clause that
    rejects it (why: `C17.Checked`). -/
structure Checked (fs : List PoolFn) : Prop where
  users : ((fs.map fun f => (f.fn, f.pool)) == expectedPoolUsers) = true
  paths : fs.all (fun f =>
      !unrec f.fn && !unrec f.pool
      && !f.paths.isEmpty
      && f.paths.any (·.contains .get) && f.paths.any (·.contains .put)
      && f.paths.all Balanced) = true

theorem checked {fs : List PoolFn} (h : poolSideCondition fs = true) : Checked fs := by
  simp only [poolSideCondition, Bool.and_eq_true] at h
  exact ⟨h.1, h.2⟩

/-- C11, pool clause (also C10's "a builder is never returned twice / never used after being
    returned"): for each pool `p`, any number of goroutines, each performing any sequence of
    calls of the extracted pool users along any of their extracted paths: EVERY interleaving
    is safe. -/
theorem C11_pool (p : String) (calls : Nat → List (List PoolEv))
    (hcalls : ∀ i, ∀ w ∈ calls i, ∃ f ∈ Facts.poolFns, f.pool = p ∧ w ∈ f.paths)
    (sched : Sched) : Safe (exec (init calls) sched) := by
  apply pool_safe
  intro i w hw
  obtain ⟨f, hf, _, hwf⟩ := hcalls i w hw
  have := List.all_eq_true.mp (checked poolSideCondition_holds).paths f hf
  simp only [Bool.and_eq_true, List.all_eq_true] at this
  exact this.2 w hwf

/-! ### The side condition rejects the pre-fix tree (D2) and extraction failures -/

/-- The pre-fix word of `VisitStoredFields` when the visitor stops at `_id`: the callee puts
    the context back and the caller's deferred `Put` puts it again. -/
example : Balanced [get, use, put, put, ret] = false := by decide
example : Balanced [get, use, put, use, ret] = false := by decide   -- use after put
example : Balanced [use, get, put, ret] = false := by decide        -- use before get
example : Balanced [get, use, ret] = true := by decide              -- no put: garbage collected

def preFixPoolFns : List PoolFn := [
  { fn := "SegmentBase.DocID", pool := "visitDocumentCtxPool",
    paths := [[ret], [get, use, ret], [get, use, put, ret]] },
  { fn := "SegmentBase.VisitStoredFields", pool := "visitDocumentCtxPool",
    paths := [[get, put, ret], [get, use, put, ret], [get, use, put, put, ret]] },
  { fn := "ZapPlugin.newWithChunkMode", pool := "interimPool",
    paths := [[get, use, ret], [get, use, put, ret]] },
  { fn := "mergeStoredAndRemap", pool := "visitDocumentCtxPool",
    paths := [[get, put, ret], [get, use, put, ret]] } ]

example : poolSideCondition preFixPoolFns = false :=
  Bool.eq_false_iff.mpr fun h => absurd (checked h).paths (by decide +kernel)

/-- A deleted user fails (no vacuous pass). -/
example : poolSideCondition (Facts.poolFns.drop 1) = false :=
  Bool.eq_false_iff.mpr fun h => absurd (checked h).users (by decide +kernel)

/-- An unrecognised user fails. -/
example : poolSideCondition
    (Facts.poolFns ++ [{ fn := "foo UNRECOGNISED", pool := "interimPool", paths := [] }]) = false :=
  Bool.eq_false_iff.mpr fun h => absurd (checked h).paths (by
    -- the appended entry first: it fails, and `&&` then never evaluates the scan of the real table
    rw [List.all_append, Bool.and_comm]
    decide +kernel)

/-- With the pre-fix word the bad state IS reachable, with two goroutines: goroutine 0 makes an
    early-terminated visit (double put: the pool now contains object 0 twice) and then a second
    call; goroutine 1 makes one call.  Both `Get`s return object 0. -/
def badProgs : List (List (List PoolEv)) :=
  [ [[get, use, put, put, ret], [get, use, put, ret]],
    [[get, use, put, ret]] ]

def badSched : Sched :=
  [(0, none), (0, none), (0, none), (0, none), (0, none),   -- goroutine 0: get(fresh 0) use put put ret
   (0, some 0),                                             -- goroutine 0: second call, Get -> 0
   (1, some 0)]                                             -- goroutine 1: Get -> 0 as well

example : holds ((exec (initL badProgs) badSched).thr 0) 0
        ∧ holds ((exec (initL badProgs) badSched).thr 1) 0 := by decide

/-- ... and one step earlier object 0 is in the pool twice. -/
example : (exec (initL badProgs) (badSched.take 5)).pool = [0, 0] := by decide

/-- Hypotheses are satisfiable: three goroutines running extracted words; a `Get` after a
    `Put` really reuses the object (so the theorem is not about an always-empty pool). -/
def goodProgs : List (List (List PoolEv)) :=
  [ [[get, use, put, ret], [get, use, ret]], [[get, put, ret]], [[ret], [get, use, put, ret]] ]

example : ∀ p ∈ goodProgs, ∀ w ∈ p, ∃ f ∈ Facts.poolFns, f.pool = "visitDocumentCtxPool" ∧ w ∈ f.paths := by
  decide +kernel

example : let s := exec (initL goodProgs) [(0, none), (0, none), (0, none), (1, some 0)]
          s.pool = [] ∧ holds (s.thr 1) 0 ∧ ¬ holds (s.thr 0) 0 := by decide

namespace Lockset
open Zap.Theory.Lock

/-- The watched locations and the mutex (field `m` of the same struct) guarding each. -/
def watched : List (Loc × Mutex) := [
  ("SegmentBase.fieldFSTs", "SegmentBase.m"),
  ("synonymIndexCache.cache", "synonymIndexCache.m"),
  ("vectorIndexCache.cache", "vectorIndexCache.m"),
  ("Segment.refs", "Segment.m")
]

def mutexOf (x : Loc) : Mutex := (watched.lookup x).getD "?"

/-- Events acquiring / releasing one extracted `held` entry.  `"m(LOCKED-convention)"` is
    treated as `"m"` (ASSUMPTION, see header).  Anything else acquires nothing, so the access
    is then unguarded and the check fails. -/
def acquire (m : Mutex) (h : String) : List Ev :=
  if h = "m" ∨ h = "m(LOCKED-convention)" then [.lock m]
  else if h = "m.R" then [.rlock m] else []

def release (m : Mutex) (h : String) : List Ev :=
  if h = "m" ∨ h = "m(LOCKED-convention)" then [.unlock m]
  else if h = "m.R" then [.runlock m] else []

/-- The word given to one extracted access: acquire what was held, access, release.
    An access kind other than "read" is treated as a write. -/
def callWord (f : LockFact) : List Ev :=
  let m := mutexOf f.location
  (f.held.map (acquire m)).flatten
    ++ [if f.access = "read" then .read f.location else .write f.location]
    ++ (f.held.reverse.map (release m)).flatten

/-- Accesses that must be present (function, location, access): a deleted access or function
    must not pass vacuously. -/
def expectedAccesses : List (String × String × String) := [
  ("Segment.AddRef", "Segment.refs", "write"),
  ("Segment.DecRef", "Segment.refs", "write"),
  ("Segment.DecRef", "Segment.refs", "read"),
  ("SegmentBase.dictionary", "SegmentBase.fieldFSTs", "read"),
  ("SegmentBase.dictionary", "SegmentBase.fieldFSTs", "write"),
  ("synonymIndexCache.Clear", "synonymIndexCache.cache", "write"),
  ("synonymIndexCache.insertLOCKED", "synonymIndexCache.cache", "write"),
  ("synonymIndexCache.loadOrCreate", "synonymIndexCache.cache", "read"),
  ("vectorIndexCache.Clear", "vectorIndexCache.cache", "write"),
  ("vectorIndexCache.cleanup", "vectorIndexCache.cache", "write"),
  ("vectorIndexCache.insertLOCKED", "vectorIndexCache.cache", "write"),
  ("vectorIndexCache.loadFromCache", "vectorIndexCache.cache", "read"),
  ("vectorIndexCache.incHit", "vectorIndexCache.cache", "read"),
  ("vectorIndexCache.decRef", "vectorIndexCache.cache", "read")
]

/-- Decidable side condition on the extracted lock facts:
    * no string is an extraction-failure marker;
    * every fact is about a watched location, with access "read" or "write";
    * every fact's call word is `callOK` for its location and that location's mutex: a write
      holds "m" (or the LOCKED convention), a read holds "m" or "m.R" (or the convention);
    * every expected (function, location, access) is present. -/
def lockSideCondition (fs : List LockFact) : Bool :=
  fs.all (fun f =>
      !unrec f.fn && !unrec f.location && !unrec f.access && allRecognised f.held
      && (watched.map (·.1)).contains f.location
      && (f.access == "read" || f.access == "write")
      && callOK f.location (mutexOf f.location) (callWord f))
  && expectedAccesses.all (fun e => fs.any (fun f => (f.fn, f.location, f.access) == e))

/-- INSTANCE: the obligation that breaks when the Go source changes. -/
theorem lockSideCondition_holds : lockSideCondition Facts.lockFacts = true := by decide +kernel

/-- The clauses of `lockSideCondition`, by name (as `Checked` for the pool). -/
structure Checked (fs : List LockFact) : Prop where
  facts : fs.all (fun f =>
      !unrec f.fn && !unrec f.location && !unrec f.access && allRecognised f.held
      && (watched.map (·.1)).contains f.location
      && (f.access == "read" || f.access == "write")
      && callOK f.location (mutexOf f.location) (callWord f)) = true
  present :
    expectedAccesses.all (fun e => fs.any (fun f => (f.fn, f.location, f.access) == e)) = true

theorem checked {fs : List LockFact} (h : lockSideCondition fs = true) : Checked fs := by
  simp only [lockSideCondition, Bool.and_eq_true] at h
  exact ⟨h.1, h.2⟩

/-- C11 / C16 / C20, lockset clause: for each watched location `x`, any number of goroutines,
    each performing any sequence of the extracted accesses to `x` (each with the locks the
    extractor saw held): in EVERY interleaving no write to `x` overlaps another access to `x`. -/
theorem C11_lockset (x : Loc) (calls : Nat → List LockFact)
    (hcalls : ∀ i, ∀ f ∈ calls i, f ∈ Facts.lockFacts ∧ f.location = x)
    (sched : List Nat) :
    ¬ Conflict (exec (init fun i => ((calls i).map callWord).flatten) sched) x := by
  apply lockset_excludes x (mutexOf x)
  intro i
  apply disciplined_flatten
  intro w hw
  obtain ⟨f, hf, rfl⟩ := List.mem_map.mp hw
  obtain ⟨hmem, hloc⟩ := hcalls i f hf
  have := List.all_eq_true.mp (checked lockSideCondition_holds).facts f hmem
  simp only [Bool.and_eq_true] at this
  exact hloc ▸ this.2

/-! ### The side condition rejects unguarded accesses, missing entries, failures -/

/-- A function writing `fieldFSTs` without the lock. -/
example : lockSideCondition
    (Facts.lockFacts ++ [{ fn := "SegmentBase.foo", location := "SegmentBase.fieldFSTs",
                           access := "write", held := [] }]) = false :=
  Bool.eq_false_iff.mpr fun h => absurd (checked h).facts (by
    -- the appended entry first
    rw [List.all_append, Bool.and_comm]
    decide +kernel)

/-- A write under the read lock only. -/
example : lockSideCondition
    (Facts.lockFacts ++ [{ fn := "vectorIndexCache.foo", location := "vectorIndexCache.cache",
                           access := "write", held := ["m.R"] }]) = false :=
  Bool.eq_false_iff.mpr fun h => absurd (checked h).facts (by
    rw [List.all_append, Bool.and_comm]
    decide +kernel)

/-- `AddRef` deleted from the facts. -/
example : lockSideCondition (Facts.lockFacts.drop 1) = false :=
  Bool.eq_false_iff.mpr fun h => absurd (checked h).present (by decide +kernel)

example : lockSideCondition
    (Facts.lockFacts ++ [{ fn := "f", location := "UNRECOGNISED location x.cache",
                           access := "read", held := ["m"] }]) = false :=
  Bool.eq_false_iff.mpr fun h => absurd (checked h).facts (by
    rw [List.all_append, Bool.and_comm]
    decide +kernel)

/-- Without the discipline the conflict IS reachable: an unguarded writer and a reader under
    the read lock are inside their accesses at the same time. -/
def badWords : List (List Ev) :=
  [ [.write "vectorIndexCache.cache"],
    [.rlock "vectorIndexCache.m", .read "vectorIndexCache.cache", .runlock "vectorIndexCache.m"] ]

example : let s := exec (initL badWords) [1, 1, 0]
          insideWriteB (s.thr 0) "vectorIndexCache.cache" = true
          ∧ insideReadB (s.thr 1) "vectorIndexCache.cache" = true := by decide +kernel

/-- Hypotheses are satisfiable, and the model does let two readers overlap (so exclusion of
    writers is not an artefact of a model in which nothing overlaps): `loadFromCache` twice. -/
example : let rd : LockFact := { fn := "vectorIndexCache.loadFromCache",
                                  location := "vectorIndexCache.cache", access := "read",
                                  held := ["m.R"] }
          rd ∈ Facts.lockFacts
          ∧ (let s := exec (initL [callWord rd, callWord rd]) [0, 0, 1, 1]
             insideReadB (s.thr 0) "vectorIndexCache.cache" = true
             ∧ insideReadB (s.thr 1) "vectorIndexCache.cache" = true) := by decide +kernel

end Lockset

end Zap.C11

#print axioms Zap.Theory.Pool.pool_safe
#print axioms Zap.C11.poolSideCondition_holds
#print axioms Zap.C11.C11_pool
#print axioms Zap.Theory.Lock.lockset_excludes
#print axioms Zap.C11.Lockset.lockSideCondition_holds
#print axioms Zap.C11.Lockset.C11_lockset
