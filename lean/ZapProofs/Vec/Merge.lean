/-
  ZapProofs.Vec.Merge: merged vector content (C15): `mergeVec` (ZapModel.Merge) against the
  specification `vecSurvivors`, renumbering twice, and `admissible` on the merged index.
-/
import ZapModel.Merge
import ZapProofs.Vec.Basic

namespace Zap.VecL

/-- new number of document `d` of an input; `none` = deleted (or beyond the map) -/
def vecNewNum (m : List (Option Nat)) (d : Nat) : Option Nat := m.getD d none
/-- the surviving vectors of one input, attached to their new document numbers, in input order -/
def vecSurvivors (p : List (Option Nat) × VecIx) : List (Nat × List Int) :=
  (p.2.vecs.filter (fun dv => (vecNewNum p.1 dv.1).isSome)).map
    (fun dv => ((vecNewNum p.1 dv.1).getD 0, dv.2))
def allVecSurvivors (parts : List (List (Option Nat) × VecIx)) : List (Nat × List Int) :=
  parts.flatMap vecSurvivors

/-! ### survivors as one `filterMap` -/

def vecRenum (m : List (Option Nat)) (dv : Nat × List Int) : Option (Nat × List Int) :=
  (vecNewNum m dv.1).map (fun nd => (nd, dv.2))

theorem vecSurvivors_eq (p : List (Option Nat) × VecIx) :
    vecSurvivors p = p.2.vecs.filterMap (vecRenum p.1) := by
  rw [vecSurvivors, ← List.filterMap_eq_map, List.filterMap_filter]
  refine List.filterMap_congr_mem fun dv _ => ?_
  simp only [vecRenum, Function.comp_apply]
  cases vecNewNum p.1 dv.1 <;> rfl

theorem allVecSurvivors_eq (parts : List (List (Option Nat) × VecIx)) :
    allVecSurvivors parts = parts.flatMap (fun p => p.2.vecs.filterMap (vecRenum p.1)) :=
  congrArg (List.flatMap · parts) (funext vecSurvivors_eq)

theorem allVecSurvivors_cons (p : List (Option Nat) × VecIx) (r : List (List (Option Nat) × VecIx)) :
    allVecSurvivors (p :: r) = vecSurvivors p ++ allVecSurvivors r :=
  List.flatMap_cons

theorem allVecSurvivors_append (a b : List (List (Option Nat) × VecIx)) :
    allVecSurvivors (a ++ b) = allVecSurvivors a ++ allVecSurvivors b :=
  List.flatMap_append

theorem mem_vecSurvivors (p : List (Option Nat) × VecIx) (nd : Nat) (v : List Int) :
    (nd, v) ∈ vecSurvivors p ↔ ∃ d, (d, v) ∈ p.2.vecs ∧ vecNewNum p.1 d = some nd := by
  simp only [vecSurvivors_eq, List.mem_filterMap, vecRenum, Option.map_eq_some_iff, Prod.mk.injEq,
    Prod.exists]
  constructor
  · rintro ⟨d, v', hm, nd', hn, rfl, rfl⟩
    exact ⟨d, hm, hn⟩
  · rintro ⟨d, hm, hn⟩
    exact ⟨d, v, hm, nd, hn, rfl, rfl⟩

theorem allVecSurvivors_eq_nil_iff (parts : List (List (Option Nat) × VecIx)) :
    allVecSurvivors parts = [] ↔ ∀ p ∈ parts, ∀ dv ∈ p.2.vecs, vecNewNum p.1 dv.1 = none := by
  simp only [allVecSurvivors_eq, List.flatMap_eq_nil_iff, List.filterMap_eq_nil_iff, vecRenum,
    Option.map_eq_none_iff]

/-! ### `mergeVec` in terms of the survivors -/

def lastOpt (parts : List (List (Option Nat) × VecIx)) (d : Nat) : Nat :=
  (parts.getLast?.map (·.2.opt)).getD d

theorem lastOpt_append (a b : List (List (Option Nat) × VecIx)) (d : Nat) :
    lastOpt (a ++ b) d = lastOpt b (lastOpt a d) := by
  unfold lastOpt
  rw [List.getLast?_append]
  cases b.getLast? with
  | none => rfl
  | some x => rfl

theorem lastOpt_cons (p : List (Option Nat) × VecIx) (r : List (List (Option Nat) × VecIx)) (d : Nat) :
    lastOpt (p :: r) d = lastOpt r p.2.opt :=
  lastOpt_append [p] r d

theorem lastOpt_map (f : List (Option Nat) → List (Option Nat)) (parts : List (List (Option Nat) × VecIx))
    (d : Nat) : lastOpt (parts.map (fun p => (f p.1, p.2))) d = lastOpt parts d := by
  unfold lastOpt
  rw [List.getLast?_map, Option.map_map]
  rfl

/-- what `mergeVec` collects is `allVecSurvivors` (the specification is written with
    `filter` and `map`, the model with one `filterMap`) -/
theorem mergeVec_collects (parts : List (List (Option Nat) × VecIx)) :
    parts.flatMap (fun p => p.2.vecs.filterMap (fun dv =>
      match p.1.getD dv.1 none with
      | none => none
      | some nd => some (nd, dv.2))) = allVecSurvivors parts := by
  have hm : ∀ (m : List (Option Nat)) (dv : Nat × List Int),
      (match m.getD dv.1 none with
        | none => none
        | some nd => some (nd, dv.2)) = vecRenum m dv := by
    intro m dv
    unfold vecRenum vecNewNum
    cases m.getD dv.1 none with
    | none => rfl
    | some nd => rfl
  rw [allVecSurvivors_eq]
  exact congrArg (List.flatMap · parts) (funext fun p =>
    congrArg (List.filterMap · p.2.vecs) (funext (hm p.1)))

theorem mergeVec_nil : mergeVec [] = none := rfl

theorem mergeVec_cons (m0 : List (Option Nat)) (v0 : VecIx) (r : List (List (Option Nat) × VecIx)) :
    mergeVec ((m0, v0) :: r) =
      if allVecSurvivors ((m0, v0) :: r) = [] then none
      else some { dim := v0.dim, metric := v0.metric, opt := lastOpt r v0.opt,
                  vecs := allVecSurvivors ((m0, v0) :: r) } := by
  rw [← lastOpt_cons (m0, v0) r v0.opt]
  unfold mergeVec
  simp only [List.isEmpty_iff]
  generalize hX : List.flatMap _ ((m0, v0) :: r) = X
  obtain rfl : X = allVecSurvivors ((m0, v0) :: r) := hX.symm.trans (mergeVec_collects _)
  rfl

theorem mergeVec_map_vecs (parts : List (List (Option Nat) × VecIx)) :
    (mergeVec parts).map (·.vecs) =
      if allVecSurvivors parts = [] then none else some (allVecSurvivors parts) := by
  cases parts with
  | nil => rfl
  | cons p0 r =>
    rw [mergeVec_cons]
    split
    · rfl
    · rfl

theorem mergeVec_eq_none_iff (parts : List (List (Option Nat) × VecIx)) :
    mergeVec parts = none ↔ allVecSurvivors parts = [] := by
  rw [← Option.map_eq_none_iff (f := (·.vecs)), mergeVec_map_vecs]
  split
  · exact iff_of_true rfl ‹_›
  · exact iff_of_false nofun ‹_›

theorem mergeVec_eq_some_iff (parts : List (List (Option Nat) × VecIx)) (ix : VecIx) :
    mergeVec parts = some ix ↔ ∃ m0 v0 r, parts = (m0, v0) :: r ∧ allVecSurvivors parts ≠ [] ∧
      ix = { dim := v0.dim, metric := v0.metric, opt := lastOpt r v0.opt, vecs := allVecSurvivors parts } := by
  cases parts with
  | nil => simp only [mergeVec_nil, reduceCtorEq, false_and, exists_false]
  | cons p0 r =>
    rw [mergeVec_cons]
    constructor
    · intro h
      by_cases hne : allVecSurvivors (p0 :: r) = []
      · rw [if_pos hne] at h
        cases h
      · rw [if_neg hne] at h
        exact ⟨p0.1, p0.2, r, rfl, hne, (Option.some.inj h).symm⟩
    · rintro ⟨m0, v0, r', hp, hne, rfl⟩
      cases hp
      exact if_neg hne

/-- first `m`, then `m'` -/
def composeMap (m' m : List (Option Nat)) : List (Option Nat) :=
  m.map (fun o => o.bind (vecNewNum m'))

theorem newNum_compose (m' m : List (Option Nat)) (d : Nat) :
    vecNewNum (composeMap m' m) d = (vecNewNum m d).bind (vecNewNum m') := by
  simp only [vecNewNum, composeMap, List.getD_eq_getElem?_getD, List.getElem?_map]
  cases m[d]? <;> rfl

theorem filterMap_allVecSurvivors (m' : List (Option Nat)) (parts : List (List (Option Nat) × VecIx)) :
    (allVecSurvivors parts).filterMap (vecRenum m') =
      allVecSurvivors (parts.map (fun p => (composeMap m' p.1, p.2))) := by
  have hc : ∀ (m : List (Option Nat)) (dv : Nat × List Int),
      (vecRenum m dv).bind (vecRenum m') = vecRenum (composeMap m' m) dv := by
    intro m dv
    unfold vecRenum
    rw [newNum_compose]
    cases vecNewNum m dv.1 with
    | none => rfl
    | some nd => rfl
  simp only [allVecSurvivors_eq, List.filterMap_flatMap, List.filterMap_filterMap, List.flatMap_map, hc]

theorem allVecSurvivors_cons_merged (m' : List (Option Nat)) (ix : VecIx)
    (parts rest : List (List (Option Nat) × VecIx)) (hv : ix.vecs = allVecSurvivors parts) :
    allVecSurvivors ((m', ix) :: rest) =
      allVecSurvivors (parts.map (fun p => (composeMap m' p.1, p.2)) ++ rest) := by
  rw [allVecSurvivors_cons, vecSurvivors_eq, hv, filterMap_allVecSurvivors, allVecSurvivors_append]

def idMap (n : Nat) : List (Option Nat) := (List.range n).map some

theorem newNum_idMap (n d : Nat) (h : d < n) : vecNewNum (idMap n) d = some d :=
  List.getD_map_range some none h

theorem vecSurvivors_idMap (ix : VecIx) (n : Nat) (hr : ∀ dv ∈ ix.vecs, dv.1 < n) :
    vecSurvivors (idMap n, ix) = ix.vecs := by
  have hp : ∀ dv ∈ ix.vecs, vecRenum (idMap n) dv = some dv := by
    intro dv hdv
    unfold vecRenum
    rw [newNum_idMap n dv.1 (hr dv hdv)]
    rfl
  rw [vecSurvivors_eq, List.filterMap_congr_mem hp, List.filterMap_some]

/-- documents of an input that must be excluded to see, on the input, what a search with
    exclusion `ex` sees on the merged index: the deleted ones and those renumbered into `ex` -/
def exclPre (m : List (Option Nat)) (ex : List Nat) : List Nat :=
  (List.range m.length).filter (fun d => match vecNewNum m d with
    | none => true
    | some nd => ex.contains nd)

def eligPre (m : List (Option Nat)) : Option (List Nat) → Option (List Nat)
  | none => none
  | some l => some ((List.range m.length).filter (fun d => match vecNewNum m d with
      | none => false
      | some nd => l.contains nd))

def renumHit (m : List (Option Nat)) (h : VHit) : VHit :=
  { doc := (vecNewNum m h.doc).getD 0, score := h.score }

theorem docOK_pre (m : List (Option Nat)) (ex : List Nat) (elig : Option (List Nat)) (d : Nat)
    (hd : d < m.length) :
    docOK (some (exclPre m ex)) (eligPre m elig) d = (vecNewNum m d).any (docOK (some ex) elig) := by
  cases elig with
  | none =>
    simp only [docOK, exOK, elOK, exclPre, eligPre, contains_range_filter _ _ _ hd]
    cases vecNewNum m d <;> rfl
  | some l =>
    simp only [docOK, exOK, elOK, exclPre, eligPre, contains_range_filter _ _ _ hd]
    cases vecNewNum m d <;> rfl

theorem admissible_survivors (p : List (Option Nat) × VecIx) (ix : VecIx) (q : List Int)
    (ex : List Nat) (elig : Option (List Nat))
    (hrange : ∀ dv ∈ p.2.vecs, dv.1 < p.1.length) (hmetric : p.2.metric = ix.metric) :
    admissible { ix with vecs := vecSurvivors p } q (some ex) elig =
      (admissible p.2 q (some (exclPre p.1 ex)) (eligPre p.1 elig)).map (renumHit p.1) := by
  rw [admissible_docOK, admissible_docOK]
  simp only [vecSurvivors, List.filter_map, List.filter_filter, List.map_map, hmetric]
  rw [List.filter_congr (fun dv hdv => ?_)]
  · rfl
  · rw [docOK_pre p.1 ex elig dv.1 (hrange dv hdv)]
    simp only [Function.comp]
    cases vecNewNum p.1 dv.1 with
    | none => exact Bool.and_false _
    | some nd => exact Bool.and_true _

theorem admissible_flatMap (ix : VecIx) (q : List Int) (ex elig : Option (List Nat))
    (parts : List (List (Option Nat) × VecIx)) (hv : ix.vecs = allVecSurvivors parts) :
    admissible ix q ex elig =
      parts.flatMap (fun p => admissible { ix with vecs := vecSurvivors p } q ex elig) := by
  simp only [admissible, hv, allVecSurvivors, List.filter_flatMap, List.map_flatMap]

end Zap.VecL
