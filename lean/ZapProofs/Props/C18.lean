/-
  C18: cancelled merge - for every instant at which the close channel is closed, the outcome is
  (`ErrClosed`, no file) or (success, complete file); closed before the call => the first poll
  returns `ErrClosed` and nothing is written.

  The theorems about every run shape satisfying `wellChecked` (`Persist.cancel_outcomes`,
  `cancel_before_start`, `outcomes`) are in ZapProofs/Theory/Persist.lean; here they are applied to
  C17's merge run with poll sites in its body.

  CHECKED AGAINST THE SOURCE ON EVERY RUN (`c18SideCondition Gen.Facts.pollSites`, and C17's side
  condition on `Gen.Facts.errFacts` for the callers)
  * every `if isClosed(closeCh)` site returns `seg.ErrClosed`;
  * each of the six merge routines has at least one site, and no other function has one;
  * the sites in `vectorIndexOpaque.mergeAndWriteVectorIndexes` release the reconstructed
    indexes before returning (`releasesBefore >= 1`);
  * every caller between a site and `mergeSegmentBases` returns the error, and
    `mergeSegmentBases` removes the file (C17's `c17SideCondition`).

  MODELLED, NOT VERIFIED
  * The channel is a monotone boolean that flips at an arbitrary step of the run; a poll site
    observes it exactly when executed.  Between two polls the merge keeps writing.
  * WHERE a site sits (inside which loop) is not extracted.  The run shape is therefore
    arbitrary, except for ONE positional assumption made by reading merge.go: the site of
    `mergeToWriter` is executed before anything is written (`firstPoll`).  It is only used for
    "closed before the call => nothing written".
  * A site with `returnsErrClosed = false` is modelled as a swallowed error (the run goes on);
    the side condition excludes it.
-/
import ZapProofs.Props.C17

namespace Zap.C18
open Zap.Gen Zap.Gen.ErrDisp Zap.Theory Zap.Theory.Persist Zap.C17

def expectedPollFns : List String := [
  "mergeToWriter", "mergeStoredAndRemap", "mergeAndPersistInvertedSection",
  "mergeAndPersistSynonymSection", "faissVectorIndexSection.Merge",
  "vectorIndexOpaque.mergeAndWriteVectorIndexes"
]

/-- The decidable side condition (see header). -/
def c18SideCondition (ps : List PollSite) : Bool :=
  ps.all (fun s => !unrec s.fn && s.returnsErrClosed && expectedPollFns.contains s.fn)
  && expectedPollFns.all (fun f => ps.any (·.fn == f))
  && ps.all (fun s => s.fn != "vectorIndexOpaque.mergeAndWriteVectorIndexes"
                      || decide (1 ≤ s.releasesBefore))

/-- INSTANCE: the obligation that breaks when the Go source changes. -/
theorem c18SideCondition_holds : c18SideCondition Facts.pollSites = true := by decide +kernel

/-- The clauses of `c18SideCondition`, by name, so that a violating table is refuted at the clause
    that rejects it (why: `C17.Checked`). -/
structure Checked (ps : List PollSite) : Prop where
  sites : ps.all (fun s => !unrec s.fn && s.returnsErrClosed && expectedPollFns.contains s.fn)
    = true
  present : expectedPollFns.all (fun f => ps.any (·.fn == f)) = true
  release : ps.all (fun s => s.fn != "vectorIndexOpaque.mergeAndWriteVectorIndexes"
                      || decide (1 ≤ s.releasesBefore)) = true

theorem checked {ps : List PollSite} (h : c18SideCondition ps = true) : Checked ps := by
  simp only [c18SideCondition, Bool.and_eq_true] at h
  obtain ⟨⟨h1, h2⟩, h3⟩ := h
  exact ⟨h1, h2, h3⟩

/-- The links a poll site contributes itself: none if it returns `ErrClosed`. -/
def pollHead (s : PollSite) : List ErrDisp := if s.returnsErrClosed then [] else [ignored]

/-- One step of a merge body: an ordinary operation, or one of the extracted poll sites reached
    through some chain of callers. -/
inductive Step
  | op (o : Op)
  | poll (site : PollSite) (callers : List ErrDisp)

def Step.toOp : Step → Op
  | .op o => o
  | .poll s c => ⟨.poll, pollHead s ++ c⟩

def Step.FromFacts : Step → Prop
  | .op o => C17.FromFacts Facts.errFacts o
  | .poll s c => s ∈ Facts.pollSites ∧ C17.FromFacts Facts.errFacts ⟨.poll, c⟩

/-- The site of `mergeToWriter` itself: executed first, directly under the driver. -/
def firstPoll : Op := ⟨.poll, []⟩

def cancelRun (body : List Step) : List Op :=
  mergeRun Facts.errFacts (firstPoll :: body.map Step.toOp)

theorem site_returns (s : PollSite) (h : s ∈ Facts.pollSites) : pollHead s = [] := by
  have := List.all_eq_true.mp (checked c18SideCondition_holds).sites s h
  simp only [Bool.and_eq_true] at this
  simp [pollHead, this.1.2]

theorem cancelBody_fromFacts (body : List Step) (h : ∀ st ∈ body, st.FromFacts) :
    ∀ op ∈ firstPoll :: body.map Step.toOp, C17.FromFacts Facts.errFacts op := by
  intro op hop
  rcases List.mem_cons.mp hop with rfl | hop
  · intro d hd; simp [firstPoll] at hd
  · obtain ⟨st, hst, rfl⟩ := List.mem_map.mp hop
    have := h st hst
    cases st with
    | op o => exact this
    | poll s c =>
      obtain ⟨hs, hc⟩ := this
      simp only [Step.toOp, site_returns s hs, List.nil_append]
      exact hc

theorem cancelRun_wellChecked (body : List Step) (h : ∀ st ∈ body, st.FromFacts) :
    wellChecked true (cancelRun body) = true :=
  mergeRun_wellChecked _ (cancelBody_fromFacts body h)

/-- C18: EVERY merge body drawn from the facts, EVERY closing instant (`some 0` = before the
    call, `some k` = during step k, `none` = never): the outcome is (`ErrClosed`, file removed)
    or (success, every write accepted in order, file kept). -/
theorem C18_cancel_outcomes (body : List Step) (h : ∀ st ∈ body, st.FromFacts)
    (closing : Option Nat) :
    ((run none closing (cancelRun body)).err = some .closed
      ∧ (run none closing (cancelRun body)).cleaned = true)
    ∨ run none closing (cancelRun body) = ⟨none, false, writeIdx 0 (cancelRun body)⟩ := by
  rcases cancel_outcomes true _ closing (cancelRun_wellChecked body h) with h | h
  · exact Or.inl ⟨h.1, h.2 rfl⟩
  · exact Or.inr h

/-- C18: closed before the call => `ErrClosed`, file removed, nothing written. -/
theorem C18_closed_before_call (body : List Step) (h : ∀ st ∈ body, st.FromFacts) :
    run none (some 0) (cancelRun body) = ⟨some .closed, true, []⟩ := by
  have hw := cancelRun_wellChecked body h
  -- the run starts with `firstPoll`
  obtain ⟨h1, h2, h3⟩ := cancel_before_start true (cancelRun body) hw rfl
  have h3' : (run none (some 0) (cancelRun body)).bytes = [] := h3.trans rfl
  have h2 := h2 rfl
  generalize run none (some 0) (cancelRun body) = o at h1 h2 h3'
  cases o
  simp only at h1 h2 h3'
  simp [h1, h2, h3']

/-- C18 together with faults: whatever fails and whenever the channel closes, the outcome is an
    error with the file removed, or complete success. -/
theorem C18_cancel_and_fault (body : List Step) (h : ∀ st ∈ body, st.FromFacts)
    (fault closing : Option Nat) :
    ((run fault closing (cancelRun body)).err.isSome = true
      ∧ (run fault closing (cancelRun body)).cleaned = true)
    ∨ run fault closing (cancelRun body) = ⟨none, false, writeIdx 0 (cancelRun body)⟩ :=
  C17_merge_outcomes _ (cancelBody_fromFacts body h) fault closing

/-- C18/C19: the vector sites free the reconstructed indexes before returning. -/
theorem C18_vector_sites_release :
    ∀ s ∈ Facts.pollSites, s.fn = "vectorIndexOpaque.mergeAndWriteVectorIndexes" →
      1 ≤ s.releasesBefore := by
  intro s hs hfn
  have := List.all_eq_true.mp (checked c18SideCondition_holds).release s hs
  simpa [hfn] using this

/-- Hypotheses are satisfiable: a body with the stored-fields poll (under `mergeToWriter`'s
    `mergeStoredAndRemap` returned), writes, and a vector poll two calls deep. -/
def sampleBody : List Step :=
  [ .op ⟨.write, [returned, returned]⟩,
    .poll ⟨"mergeStoredAndRemap", true, 0⟩ [returned],
    .op ⟨.write, [returned, returned]⟩,
    .poll ⟨"vectorIndexOpaque.mergeAndWriteVectorIndexes", true, 1⟩ [returned, returned],
    .op ⟨.write, [sticky, returned]⟩ ]

instance (st : Step) : Decidable st.FromFacts := by
  cases st <;> unfold Step.FromFacts <;> infer_instance

example : ∀ st ∈ sampleBody, st.FromFacts := by decide +kernel

/-- Every closing instant of that run, enumerated: closed at or before step 2 -> `ErrClosed`
    at the poll of step 2 (one write done, file removed); closed during steps 3..4 -> at the
    poll of step 4; later or never -> success with all 3 + 8 writes. -/
example : (List.range 8).map (fun c => run none (some c) (cancelRun sampleBody))
    = [ ⟨some .closed, true, []⟩, ⟨some .closed, true, [1]⟩, ⟨some .closed, true, [1]⟩,
        ⟨some .closed, true, [1, 3]⟩, ⟨some .closed, true, [1, 3]⟩,
        ⟨none, false, [1, 3, 5, 6, 7, 8, 9, 10, 11, 12, 13]⟩,
        ⟨none, false, [1, 3, 5, 6, 7, 8, 9, 10, 11, 12, 13]⟩,
        ⟨none, false, [1, 3, 5, 6, 7, 8, 9, 10, 11, 12, 13]⟩ ] := by
  rw [cancelRun, mergeRun_facts]
  decide +kernel

/-- Violations are rejected: a site that does not return `ErrClosed`; a merge routine without
    any site; a vector site that returns without freeing the indexes; a site in an unexpected
    function; an extraction failure. -/
example : c18SideCondition
    (Facts.pollSites.map fun s => if s.fn == "mergeStoredAndRemap"
                                    then { s with returnsErrClosed := false } else s) = false :=
  Bool.eq_false_iff.mpr fun h => absurd (checked h).sites (by decide +kernel)
example : c18SideCondition (Facts.pollSites.filter (·.fn != "mergeToWriter")) = false :=
  Bool.eq_false_iff.mpr fun h => absurd (checked h).present (by decide +kernel)
example : c18SideCondition
    (Facts.pollSites.map fun s => { s with releasesBefore := 0 }) = false :=
  Bool.eq_false_iff.mpr fun h => absurd (checked h).release (by decide +kernel)
example : c18SideCondition (Facts.pollSites ++ [⟨"someOtherFn", true, 0⟩]) = false :=
  Bool.eq_false_iff.mpr fun h => absurd (checked h).sites (by
    -- the appended entry first: it fails, and `&&` then never evaluates the scan of the real table
    rw [List.all_append, Bool.and_comm]
    decide +kernel)
example : c18SideCondition [⟨"isClosed UNRECOGNISED", false, 0⟩] = false := by decide +kernel

/-- In the model the violation is real: a poll whose `ErrClosed` reaches a driver that returns
    WITHOUT cleanup gives (`ErrClosed`, file left behind) - neither allowed outcome. -/
example : wellChecked true [⟨.poll, [returned]⟩, ⟨.write, [cleanupReturned]⟩,
                            ⟨.flush, [cleanupReturned]⟩] = false := by decide
example : run none (some 0) [⟨.poll, [returned]⟩, ⟨.write, [cleanupReturned]⟩,
                             ⟨.flush, [cleanupReturned]⟩] = ⟨some .closed, false, []⟩ := by decide

end Zap.C18

#print axioms Zap.Theory.Persist.cancel_outcomes
#print axioms Zap.Theory.Persist.cancel_before_start
#print axioms Zap.C18.c18SideCondition_holds
#print axioms Zap.C18.C18_cancel_outcomes
#print axioms Zap.C18.C18_closed_before_call
#print axioms Zap.C18.C18_cancel_and_fault
#print axioms Zap.C18.C18_vector_sites_release
