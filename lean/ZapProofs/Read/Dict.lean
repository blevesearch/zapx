/-
  What a dictionary value must be for readers to recognise it (`RepWF`), the count a scratch
  postings list reports after one `read` (C08), and what the merge writes (`chooseRep_cases`:
  nothing, the entries as they are, or the 1-hit form; used by C06 and C08).
-/
import ZapModel.Merge
import ZapProofs.Codec.Bits

namespace Zap

/-- 1-hit entries always carry non-zero norm bits: `PostingsList.Count` tests
    `normBits1Hit != 0` to recognise a 1-hit list, so a 1-hit with norm bits 0
    would be taken for a general list. -/
def RepWF : PostRep → Prop
  | .oneHit _ n => n ≠ 0
  | .general _ => True

instance : DecidablePred RepWF := fun r => by
  cases r <;> unfold RepWF <;> infer_instance

end Zap

namespace Zap.DictL
open Zap.Codec

/-- `read true`: as repaired for D1, the general path clears the 1-hit fields. -/
theorem count_read_true (sc : Scratch) (r : PostRep) (h : RepWF r) :
    (sc.read true r).count = r.docs.length := by
  cases r with
  | general es => simp [Scratch.read, Scratch.count, PostRep.docs]
  | oneHit d n =>
    have : n ≠ 0 := h
    simp [Scratch.read, Scratch.count, PostRep.docs, this]

/-- Both parts of a 1-hit that `chooseRep` writes are below `2 ^ 31`, so the reader gets them back. -/
theorem decode_encode_1hit_of_lt {doc norm : Nat} (hd : doc < 2 ^ 31) (hn : norm < 2 ^ 31) :
    Gen.FSTValDecode1Hit (Gen.FSTValEncode1Hit doc norm) = (doc, norm) := by
  rw [decode_encode_1hit, Nat.mod_eq_of_lt hd, Nat.mod_eq_of_lt hn]

theorem last_of_last_mem {α : Type} {parts : List (List α)} {l : α}
    (h : (parts.getLast?.getD []).getLast? = some l) : l ∈ parts.flatMap id := by
  cases hp : parts.getLast? with
  | none => rw [hp] at h; simp at h
  | some p =>
    rw [hp] at h
    simp only [Option.getD_some] at h
    exact List.mem_flatMap.2 ⟨p, List.mem_of_getLast? hp, List.mem_of_getLast? h⟩

theorem chooseRep_cases (parts : List (List Entry)) :
    parts.flatMap id = [] ∧ chooseRep parts = none ∨
    parts.flatMap id ≠ [] ∧ chooseRep parts = some (.general (parts.flatMap id)) ∨
    ∃ e, parts.flatMap id = [e] ∧ e.locs = [] ∧ e.doc < 2 ^ 31 ∧ e.freq = 1 ∧ e.norm ≠ 0 ∧
      e.norm < 2 ^ 31 ∧ chooseRep parts = some (.oneHit e.doc e.norm) := by
  generalize hr : chooseRep parts = r
  unfold chooseRep at hr
  generalize hes : parts.flatMap id = es at hr ⊢
  rcases es with _ | ⟨e, _ | ⟨_, _⟩⟩
  · exact .inl ⟨rfl, hr.symm⟩
  · dsimp only at hr
    -- the last entry of the last part, which the test looks at, is `e` itself or missing
    cases hl : (parts.getLast?.getD []).getLast? with
    | none =>
      rw [hl] at hr
      dsimp only at hr
      rw [if_neg (fun hc => hc.2.2.2.2.1 rfl)] at hr
      exact .inr (.inl ⟨List.cons_ne_nil _ _, hr.symm⟩)
    | some l =>
      obtain rfl : l = e := by simpa [hes] using last_of_last_mem hl
      rw [hl] at hr
      dsimp only at hr
      split at hr
      · next hc =>
        obtain ⟨h1, h2, _, h4, h5, h6⟩ := hc
        have hd := (under32Bits_iff _).1 h2
        have hn := (under32Bits_iff _).1 h6
        rw [decode_encode_1hit_of_lt hd hn] at hr
        exact .inr (.inr ⟨l, rfl, by simpa using h1, hd, h4, h5, hn, hr.symm⟩)
      · exact .inr (.inl ⟨List.cons_ne_nil _ _, hr.symm⟩)
  · exact .inr (.inl ⟨List.cons_ne_nil _ _, hr.symm⟩)

end Zap.DictL
