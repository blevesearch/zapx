/-
  C12: the thesaurus of a built segment.  For every thesaurus name and term the
  segment's `synonyms` are, as a set with each pair listed once, exactly the
  (synonym, document) pairs the batch defines (minus the excluded documents);
  `thesTerms` are exactly the LHS terms having a pair, in ascending byte order;
  an unknown thesaurus / term gives nothing; synonym fields contribute nothing
  to the ordinary term dictionaries; the synonym ids of pass 1 (`realloc`) and
  the lookups of pass 2 (`process`) are consistent.

  Model: `synIds` (pass 1), `buildThes` (pass 2 + `writeThesauri`), read through
  `Seg.synonyms` / `Seg.thesTerms` (thesaurus.go, synonym_posting.go).
  Specification: `Spec.synPairs` / `Spec.synonyms` / `Spec.thesTermsSet`
  (ZapModel/SpecSyn.lean), domain `Spec.SynWF`.  Of `SynWF` the proofs use only
  the clause "synonym fields occur only in non-plain documents" (`SynPlainOK`);
  the other clauses delimit the domain of the real code (see SpecSyn.lean; "no
  empty synonym" does so on the pinned tree only: defect D16, the repaired loader
  accepts the empty term).

  "The same after persist / open": in the model the reopened segment is the
  same `Seg` value, so there is nothing to prove here; that the bytes written by
  `writeThesauri` read back to this value is tied by the differential run.

  Property theorems only; lemmas are in ZapProofs/Syn/Thes.lean and ZapProofs/Syn/Build.lean.
-/
import ZapProofs.Syn.Build

namespace Zap
open SynL

/-- What the specification lists means what the English says: document number
    `d` defines `term → syn` in thesaurus `n` iff it has a field of kind `.syn`
    named `n` with a definition `df`, `df.lhs = term`, `syn ∈ df.rhs`; the LHS
    terms are those having at least one pair. -/
theorem C12_spec_meaning (b : Batch) (n : Name) (term : Bytes) :
    (∀ syn d, (syn, d) ∈ Spec.synPairs b n term ↔
      ∃ doc, b[d]? = some doc ∧ ∃ f ∈ doc.fields, f.kind = .syn ∧ f.name = n ∧
        ∃ df ∈ f.defs, df.lhs = term ∧ syn ∈ df.rhs) ∧
    (∀ ex p, p ∈ Spec.synonyms b n term ex ↔ p ∈ Spec.synPairs b n term ∧ excluded ex p.2 = false) ∧
    (term ∈ Spec.thesTermsSet b n ↔ ∃ syn d, (syn, d) ∈ Spec.synPairs b n term) :=
  ⟨fun syn d => synPairs_meaning b n term syn d,
   fun ex p => mem_spec_synonyms b n term ex p,
   thesTermsSet_meaning b n term⟩

/-- The synonyms of (thesaurus `n`, `term`) with exclusion `ex`: each pair once,
    and exactly the pairs the batch defines whose document is not excluded. -/
theorem C12_synonyms (vectors : Bool) (mode : Nat) (b : Batch) (hne : b ≠ []) (hwf : Spec.SynWF b)
    (n : Name) (term : Bytes) (ex : Option (List Nat)) :
    ((buildSeg vectors mode b).synonyms n term ex).Nodup ∧
    ∀ p, p ∈ (buildSeg vectors mode b).synonyms n term ex ↔ p ∈ Spec.synonyms b n term ex :=
  ⟨synonyms_nodup _ n term ex (fun t ht => build_thes_wf vectors mode b hne hwf.plainOK n t ht),
   fun p => build_synonyms_mem vectors mode b hne hwf.plainOK n term ex p⟩

/-- The terms of thesaurus `n`: ascending byte order, exactly the LHS terms. -/
theorem C12_terms (vectors : Bool) (mode : Nat) (b : Batch) (hne : b ≠ []) (hwf : Spec.SynWF b) (n : Name) :
    SortedLt ((buildSeg vectors mode b).thesTerms n) ∧
    ∀ t, t ∈ (buildSeg vectors mode b).thesTerms n ↔ t ∈ Spec.thesTermsSet b n :=
  ⟨thesTerms_sorted _ n (fun t ht => build_thes_wf vectors mode b hne hwf.plainOK n t ht),
   fun t => build_thesTerms_mem vectors mode b hne hwf.plainOK n t⟩

/-- Unknown thesaurus name (no document has a synonym field of that name):
    no synonyms, no terms.  Unknown term: no synonyms. -/
theorem C12_unknown (vectors : Bool) (mode : Nat) (b : Batch) (hne : b ≠ []) (hwf : Spec.SynWF b)
    (n : Name) (term : Bytes) (ex : Option (List Nat)) :
    (¬ Spec.hasSynField b n →
      (buildSeg vectors mode b).synonyms n term ex = [] ∧ (buildSeg vectors mode b).thesTerms n = []) ∧
    (term ∉ Spec.thesTermsSet b n → (buildSeg vectors mode b).synonyms n term ex = []) := by
  have hsyn : ∀ p ∈ (buildSeg vectors mode b).synonyms n term ex, p ∈ Spec.synPairs b n term := fun p hp =>
    ((mem_spec_synonyms b n term ex p).1 (((C12_synonyms vectors mode b hne hwf n term ex).2 p).1 hp)).1
  refine ⟨fun hno => ⟨?_, ?_⟩, fun hno => ?_⟩
  · exact List.eq_nil_iff_forall_not_mem.2 fun p hp => hno (hasSynField_of_pair (hsyn p hp))
  · refine List.eq_nil_iff_forall_not_mem.2 fun t ht => ?_
    obtain ⟨syn, d, h⟩ := (thesTermsSet_meaning b n t).1 (((C12_terms vectors mode b hne hwf n).2 t).1 ht)
    exact hno (hasSynField_of_pair h)
  · exact List.eq_nil_iff_forall_not_mem.2 fun p hp =>
      hno ((thesTermsSet_meaning b n term).2 ⟨p.1, p.2, hsyn p hp⟩)

/-- Synonym fields contribute nothing to the ordinary term dictionaries: if
    every field named `n` in the batch is a synonym field, the dictionary of
    `n` is empty.  (Neither `SynWF` nor "some synonym field is named `n`" is
    needed: the inverted-index section's exclusion check skips every synonym
    field, `invProcessed`.) -/
theorem C12_not_in_dictionaries (vectors : Bool) (mode : Nat) (b : Batch) (hne : b ≠ []) (n : Name)
    (h : ∀ d ∈ b, ∀ f ∈ d.fields, f.name = n → f.kind = .syn) :
    (buildSeg vectors mode b).dictTerms n = [] :=
  build_dictTerms_skipped vectors mode b hne n fun d hd f hf e => by
    unfold invProcessed
    rw [h d hd f hf e]

/-- Pass 1 assigned every synonym of every definition of thesaurus `n` an id,
    injectively: the id pass 2 looks up is in range and maps back to the
    synonym through `synIds` and through the segment's id → term table. -/
theorem C12_ids_consistent (b : Batch) (hwf : Spec.SynWF b) (n : Name) :
    (synIds b n).Nodup ∧
    (∀ s s', s ∈ synIds b n → s' ∈ synIds b n → synIdOf (synIds b n) s = synIdOf (synIds b n) s' → s = s') ∧
    ∀ d ∈ b, ∀ f ∈ d.fields, f.kind = .syn → f.name = n → ∀ df ∈ f.defs, ∀ syn ∈ df.rhs,
      synIdOf (synIds b n) syn < (synIds b n).length ∧
      (synIds b n)[synIdOf (synIds b n) syn]? = some syn ∧
      lookup (synIdOf (synIds b n) syn) (buildThes b n).table = some syn := by
  refine ⟨synIds_nodup b n, fun s s' h h' e => ?_, fun d hd f hf hk hn df hdf syn hs => ?_⟩
  · exact fieldIdOf_inj h' e
  · have hm : syn ∈ synIds b n := rhs_mem_synIds hwf.plainOK hd (mem_synDefs.2 ⟨f, hf, hk, hn, hdf⟩) hs
    refine ⟨fieldIdOf_lt hm, getElem?_fieldIdOf hm, ?_⟩
    rw [(buildThes_stores hwf.plainOK n).table]
    exact lookup_tableOf_synIdOf hm

/-- Every thesaurus of a built segment is well formed (`Spec.ThesWF`): the
    input condition of the merge theorems C13. -/
theorem C12_wellformed (vectors : Bool) (mode : Nat) (b : Batch) (hne : b ≠ []) (hwf : Spec.SynWF b) :
    Spec.SegThesWF (buildSeg vectors mode b) :=
  build_thes_wf vectors mode b hne hwf.plainOK

/-! ### The hypotheses are not vacuous: a concrete batch

Three documents, two thesauri (`th1`, `th2`).  In `th1` the synonym `q` is shared
between the terms `x` and `y`; the term `x` is defined by documents 0 and 2 (and
twice the pair `(q, 2)`: it is listed once); the empty LHS term occurs; document 1
is a plain document with an ordinary field that happens to contain the token `x`. -/

namespace C12Example

def B (s : String) : Bytes := strBytes s
def th1 : Name := B "th1"
def th2 : Name := B "th2"

def idf (s : String) : FieldIn :=
  { name := idName, stored := true, val := B s, len := 1, toks := [{ term := B s, freq := 1, locs := [] }] }

def batch : Batch :=
  [ { id := B "a", fields :=
        [ idf "a",
          { kind := .syn, name := th1, defs := [⟨B "x", [B "p", B "q"]⟩, ⟨B "y", [B "q"]⟩] },
          { kind := .syn, name := th2, defs := [⟨B "x", [B "r"]⟩] } ] },
    { id := B "b", plain := true, fields :=
        [ idf "b", { name := B "body", len := 1, toks := [{ term := B "x", freq := 1, locs := [] }] } ] },
    { id := B "c", fields :=
        [ idf "c",
          { kind := .syn, name := th1, defs := [⟨B "x", [B "q", B "s", B "q"]⟩, ⟨B "", [B "z"]⟩] } ] } ]

example : Spec.SynWF batch := by decide +kernel
example : batch ≠ [] := List.cons_ne_nil _ _

/-- both sides of `C12_synonyms` for (`th1`, `x`), no exclusion … -/
example : (buildSeg false 1024 batch).synonyms th1 (B "x") none
    = [(B "p", 0), (B "q", 0), (B "q", 2), (B "s", 2)] := by decide +kernel
/-- … the specification lists the pair `(q, 2)` twice (it is a set) -/
example : Spec.synonyms batch th1 (B "x") none
    = [(B "p", 0), (B "q", 0), (B "q", 2), (B "s", 2), (B "q", 2)] := by decide +kernel

/-- with document 0 excluded -/
example : (buildSeg false 1024 batch).synonyms th1 (B "x") (some [0]) = [(B "q", 2), (B "s", 2)]
    ∧ Spec.synonyms batch th1 (B "x") (some [0]) = [(B "q", 2), (B "s", 2), (B "q", 2)] := by decide +kernel

/-- the second thesaurus is separate -/
example : (buildSeg false 1024 batch).synonyms th2 (B "x") none = [(B "r", 0)]
    ∧ Spec.synonyms batch th2 (B "x") none = [(B "r", 0)] := by decide +kernel

/-- both sides of `C12_terms` (the empty term first) -/
example : (buildSeg false 1024 batch).thesTerms th1 = [B "", B "x", B "y"]
    ∧ Spec.thesTermsSet batch th1 = [B "x", B "y", B "x", B ""] := by decide +kernel

/-- `C12_unknown`: unknown thesaurus, unknown term -/
example : ¬ Spec.hasSynField batch (B "body") := by
  unfold Spec.hasSynField; decide +kernel
example : (buildSeg false 1024 batch).synonyms (B "body") (B "x") none = []
    ∧ (buildSeg false 1024 batch).thesTerms (B "body") = []
    ∧ (buildSeg false 1024 batch).synonyms th2 (B "y") none = [] := by decide +kernel

/-- `C12_not_in_dictionaries`: hypothesis holds for `th1`; the dictionary is
    empty although the field is in the field table -/
example : ∀ d ∈ batch, ∀ f ∈ d.fields, f.name = th1 → f.kind = .syn := by decide +kernel
example : (buildSeg false 1024 batch).dictTerms th1 = [] ∧ th1 ∈ (buildSeg false 1024 batch).fieldNames
    ∧ (buildSeg false 1024 batch).dictTerms (B "body") ≠ [] := by decide +kernel

/-- `C12_ids_consistent`: ids in first-appearance order; the stored table -/
example : synIds batch th1 = [B "p", B "q", B "s", B "z"]
    ∧ (buildThes batch th1).table = [(0, B "p"), (1, B "q"), (2, B "s"), (3, B "z")]
    ∧ (buildThes batch th1).terms
        = [(B "", [(3, 2)]), (B "x", [(0, 0), (1, 0), (1, 2), (2, 2)]), (B "y", [(1, 0)])] := by decide +kernel

/-- The domain clause is necessary: the same synonym field in a *plain* document
    is seen by pass 2 only — no thesaurus is recorded, the specification is not
    met (in the real code `process` would index `Thesauri` with an undefined id). -/
example :
    let bad : Batch := [ { id := B "a", plain := true, fields :=
        [ idf "a", { kind := .syn, name := th1, defs := [⟨B "x", [B "p"]⟩] } ] } ]
    ¬ Spec.SynWF bad ∧ (buildSeg false 1024 bad).synonyms th1 (B "x") none = []
      ∧ Spec.synonyms bad th1 (B "x") none = [(B "p", 0)] := by decide +kernel

end C12Example

end Zap

#print axioms Zap.C12_spec_meaning
#print axioms Zap.C12_synonyms
#print axioms Zap.C12_terms
#print axioms Zap.C12_unknown
#print axioms Zap.C12_not_in_dictionaries
#print axioms Zap.C12_ids_consistent
#print axioms Zap.C12_wellformed
