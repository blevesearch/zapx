/-
  Bridging `ByteArray` + cursor (ZapModel/Layout.lean) to byte lists: `region b p l` is the list
  of the bytes of `b` in `[p, l)`; `view` turns the result of a reader with a cursor into what a
  list reader returns; `Layout.uvLim` on the array does what `Writer.uv64` does on the region;
  `loopN`: how the `for` loops of Layout are handled.
-/
import ZapModel.Layout
import ZapModel.Writer

namespace Zap.Writer.BA
open Zap.Layout

theorem get!_eq (b : ByteArray) (i : Nat) (h : i < b.size) :
    b.get! i = b.data.toList[i]'(by simpa using h) := by
  obtain ⟨d⟩ := b
  exact (getElem!_pos d i h).trans (Array.getElem_toList _).symm

theorem toList_loop (b : ByteArray) (i : Nat) (r : List UInt8) :
    ByteArray.toList.loop b i r = r.reverse ++ b.data.toList.drop i := by
  fun_induction ByteArray.toList.loop b i r with
  | case1 i r h ih =>
    rw [ih, List.reverse_cons, List.append_assoc, List.drop_eq_getElem_cons (i := i) (by simpa using h),
      get!_eq b i h]
    rfl
  | case2 i r h =>
    rw [List.drop_eq_nil_of_le (by simpa using h), List.append_nil]

theorem toList_eq (b : ByteArray) : b.toList = b.data.toList := toList_loop b 0 []

theorem ofBA_eq (b : ByteArray) : ofBA b = b.data.toList.map UInt8.toNat := by
  unfold ofBA; rw [toList_eq]

theorem ofBA_length (b : ByteArray) : (ofBA b).length = b.size := by
  rw [ofBA_eq]; simp

theorem ofBA_getElem (b : ByteArray) (i : Nat) (h : i < (ofBA b).length) :
    (ofBA b)[i] = (b.get! i).toNat := by
  simp only [ofBA_eq, List.getElem_map, get!_eq b i (ofBA_length b ▸ h)]

def region (b : ByteArray) (p l : Nat) : Bytes := ((ofBA b).take l).drop p

theorem region_eq_nil (b : ByteArray) (p l : Nat) (h : p ≥ l ∨ p ≥ b.size) : region b p l = [] := by
  unfold region
  apply List.drop_eq_nil_of_le
  rw [List.length_take, ofBA_length]
  exact h.elim (Nat.le_trans (Nat.min_le_left _ _)) (Nat.le_trans (Nat.min_le_right _ _))

theorem region_cons (b : ByteArray) (p l : Nat) (h : ¬ (p ≥ l ∨ p ≥ b.size)) :
    region b p l = (b.get! p).toNat :: region b (p + 1) l := by
  unfold region
  rw [List.drop_eq_getElem_cons (by rw [List.length_take, ofBA_length]; omega), List.getElem_take,
    ofBA_getElem]

theorem region_eq_cons {b : ByteArray} {p l x : Nat} {xs : Bytes} (h : region b p l = x :: xs) :
    p < l ∧ (b.get! p).toNat = x ∧ region b (p + 1) l = xs := by
  have hp : ¬ (p ≥ l ∨ p ≥ b.size) := fun hp => nomatch (region_eq_nil b p l hp).symm.trans h
  rw [region_cons b p l hp] at h
  exact ⟨Nat.lt_of_not_le fun x => hp (.inl x), List.cons.inj h⟩

theorem region_length (b : ByteArray) (p l : Nat) : (region b p l).length = min l b.size - p := by
  unfold region
  rw [List.length_drop, List.length_take, ofBA_length]

theorem region_eq_nil_iff (b : ByteArray) (p l : Nat) (hl : l ≤ b.size) :
    region b p l = [] ↔ p ≥ l := by
  rw [← List.length_eq_zero_iff, region_length, Nat.min_eq_left hl]
  exact Nat.sub_eq_zero_iff_le

theorem region_size (b : ByteArray) (p : Nat) : region b p b.size = (ofBA b).drop p := by
  unfold region
  rw [List.take_of_length_le (by rw [ofBA_length]; exact Nat.le_refl _)]

theorem region_drop (b : ByteArray) (p l n : Nat) : (region b p l).drop n = region b (p + n) l := by
  unfold region
  rw [List.drop_drop]

theorem region_take (b : ByteArray) (p l n : Nat) (h : p + n ≤ l) :
    (region b p l).take n = region b p (p + n) := by
  unfold region
  rw [List.take_drop, List.take_take, Nat.min_eq_left h]

theorem ofBA_extract (b : ByteArray) (s e : Nat) : ofBA (b.extract s e) = region b s e := by
  unfold region
  rw [ofBA_eq, ofBA_eq, ByteArray.data_extract]
  simp [List.map_drop, List.map_take, List.drop_take]

theorem slice_eq (b : ByteArray) (p n : Nat) (h : p + n ≤ b.size) :
    slice b p n = .ok (region b p (p + n)) := by
  rw [slice, if_neg (Nat.not_lt.mpr h), ofBA_extract]
  rfl

theorem size_toBA (bs : Bytes) : (toBA bs).size = bs.length := by
  simp [toBA, ByteArray.size]

theorem ofBA_toBA (bs : Bytes) (h : ∀ x ∈ bs, x < 256) : ofBA (toBA bs) = bs := by
  rw [ofBA_eq]
  simp only [toBA, Array.toList_map, List.map_map]
  rw [List.map_congr_left (g := id)]
  · simp
  · intro x hx
    have := h x hx
    simp [UInt8.toNat_ofNat']
    omega

/-- What the result of a reader with a cursor looks like to a reader of the byte list of
    `[·, lim)`: the value and the bytes left.  A cursor beyond `lim` is no result, so that an
    equation `view b lim (f …) = g (region b … lim)` also says that `f` stays inside the region. -/
def view {α : Type} (b : ByteArray) (lim : Nat) : R (α × Nat) → Option (α × Bytes)
  | .ok (a, p) => if p ≤ lim then some (a, region b p lim) else none
  | .error _ => none

section
variable {α : Type} {b : ByteArray} {lim : Nat}

theorem view_ok (a : α) {p : Nat} (h : p ≤ lim) : view b lim (.ok (a, p)) = some (a, region b p lim) :=
  if_pos h

theorem view_eq_some {r : R (α × Nat)} {a : α} {rest : Bytes} (h : view b lim r = some (a, rest)) :
    ∃ p, r = .ok (a, p) ∧ p ≤ lim ∧ rest = region b p lim := by
  cases r with
  | error e => cases h
  | ok x =>
    obtain ⟨a', p⟩ := x
    by_cases hp : p ≤ lim
    · rw [view, if_pos hp] at h
      cases h
      exact ⟨p, rfl, hp, rfl⟩
    · rw [view, if_neg hp] at h
      cases h

end

theorem uvLimGo_le (b : ByteArray) (lim fuel pos sh acc v p' : Nat) :
    uvLim.go b lim fuel pos sh acc = .ok (v, p') → pos < p' ∧ p' ≤ lim ∧ p' ≤ b.size := by
  fun_induction uvLim.go b lim fuel pos sh acc with
  | case1 | case2 | case3 =>
    intro h
    cases h
  | case4 pos sh acc fuel hp =>
    intro h
    cases h
    exact ⟨Nat.lt_succ_self _, Nat.lt_of_not_le fun x => hp (.inl x), Nat.lt_of_not_le fun x => hp (.inr x)⟩
  | case5 pos sh acc fuel hp x hx ih =>
    intro h
    exact ⟨Nat.lt_of_succ_lt (ih h).1, (ih h).2⟩

theorem uvLim_le {b : ByteArray} {pos lim v p' : Nat} (h : uvLim b pos lim = .ok (v, p')) :
    pos < p' ∧ p' ≤ lim ∧ p' ≤ b.size := uvLimGo_le b lim 10 pos 0 0 v p' h

theorem view_uvLimGo (b : ByteArray) (lim fuel pos sh acc : Nat) :
    view b lim (uvLim.go b lim fuel pos sh acc) = uv64Go fuel (region b pos lim) sh acc := by
  fun_induction uvLim.go b lim fuel pos sh acc with
  | case1 => rfl
  | case2 pos sh acc fuel hp => rw [region_eq_nil b pos lim hp]; rfl
  | case3 pos sh acc fuel hp x hx hov =>
    rw [region_cons b pos lim hp, uv64Go, if_pos hx, if_pos hov]
    rfl
  | case4 pos sh acc fuel hp x hx hov =>
    rw [region_cons b pos lim hp, uv64Go, if_pos hx, if_neg hov]
    exact view_ok _ (Nat.lt_of_not_le fun x => hp (.inl x))
  | case5 pos sh acc fuel hp x hx ih =>
    rw [region_cons b pos lim hp, uv64Go, if_neg hx]
    exact ih

theorem view_uvLim (b : ByteArray) (pos lim : Nat) :
    view b lim (uvLim b pos lim) = uv64 (region b pos lim) := view_uvLimGo b lim 10 pos 0 0

theorem uvLim_sim (b : ByteArray) (pos lim v : Nat) (rest : Bytes)
    (h : uv64 (region b pos lim) = some (v, rest)) :
    ∃ p', uvLim b pos lim = .ok (v, p') ∧ rest = region b p' lim ∧ pos < p' ∧ p' ≤ lim ∧ p' ≤ b.size := by
  rw [← view_uvLim] at h
  obtain ⟨p', e, _, hr⟩ := view_eq_some h
  exact ⟨p', e, hr, uvLim_le e⟩

theorem uv_sim (b : ByteArray) (pos v : Nat) (rest : Bytes)
    (h : uv64 ((ofBA b).drop pos) = some (v, rest)) :
    ∃ p', uv b pos = .ok (v, p') ∧ rest = (ofBA b).drop p' ∧ pos < p' ∧ p' ≤ b.size := by
  rw [← region_size] at h
  obtain ⟨p', e1, e2, e3, _, e5⟩ := uvLim_sim b pos b.size v rest h
  exact ⟨p', e1, by rw [e2, region_size], e3, e5⟩

/-- `for _ in [0:n] do ...` with a body that ignores the index.  How the `for` loops of Layout
    are handled throughout: `forIn_range_eq` turns the loop into `loopN body`; a lemma about
    `loopN` is proved for ANY `body` that satisfies a step equation; at the use the loop is named
    (`generalize hL : loopN _ n s = L`), so that the big do-block body is found by unification
    and never has to be written down. -/
def loopN {β : Type} (f : β → R (ForInStep β)) : Nat → β → R β
  | 0, s => pure s
  | n + 1, s =>
    match f s with
    | .error e => .error e
    | .ok (.done s') => pure s'
    | .ok (.yield s') => loopN f n s'

theorem forIn_range'_eq {β : Type} (f : β → R (ForInStep β)) : ∀ (n start : Nat) (init : β),
    forIn (List.range' start n 1) init (fun _ s => f s) = loopN f n init := by
  intro n
  induction n with
  | zero => intro start init; rfl
  | succ n ih =>
    intro start init
    rw [List.range'_succ, List.forIn_cons]
    simp only [loopN]
    cases h : f init with
    | error e => rfl
    | ok st =>
      cases st with
      | done s' => rfl
      | yield s' => exact ih _ _

theorem forIn_range_eq {β : Type} (f : β → R (ForInStep β)) (n : Nat) (init : β) :
    forIn [:n] init (fun _ s => f s) = loopN f n init := by
  rw [Std.Legacy.Range.forIn_eq_forIn_range']
  have : ([:n] : Std.Legacy.Range).size = n := by simp [Std.Legacy.Range.size]
  rw [this]
  exact forIn_range'_eq f n _ init

end Zap.Writer.BA
