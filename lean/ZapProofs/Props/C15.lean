/-
  C15 (merged vector indexes hold exactly the survivors' vectors, renumbered).

  MODEL.  `mergeVec parts` (ZapModel.Merge; `faissVectorIndexSection.Merge` +
  `flushSectionMetadata` + `mergeAndWriteVectorIndexes`): `parts` lists, per input segment that
  has a vector index for the field, the input's new-number map (`none` = dropped document; as
  produced by `remapAll`) and the input's index content `VecIx` (dim, metric, optimisation
  tag, the (doc, vector) pairs in id order).  The merge reconstructs the vectors by id from
  each input and rebuilds; vector ids are renumbered, so the model is id-free.

  SPEC (`VecL.vecSurvivors`, written independently as filter + map): the vectors of an input whose
  document has a new number, attached to that number, in input order.

  HYPOTHESES are explicit:
  * `C15_admissible_union` / `C15_search_merged`: every document of an input index is inside the
    input's map (`hrange`; the map has one entry per document of the segment) and all inputs
    use the metric of the result (`hmetric`; one field mapping).  Without `hrange` a document
    beyond the map counts as dropped in `mergeVec` (`getD … none`) but could not be named in a
    finite exclusion list built from the map.
  * `C15_search_merged` assumes the engine contract of C14 for the engine holding the merged
    content; the rebuilt index is exact below 1000 vectors (`isExact`), the clustered case is
    only sound.

  NOT MODELLED: the byte layout of the section, index training / class selection beyond
  `determineIndexClass`, freeing of the reconstructed input indexes (C19), errors.
-/
import ZapProofs.Vec.Merge
import ZapProofs.Vec.Search

namespace Zap.C15
open Zap.VecSearch Zap.VecL

/-- The result's vectors are exactly the surviving vectors attached to their new document
    numbers, in input order (sequence equality, hence with multiplicities); dimension and
    metric are those of the first input. -/
theorem C15_vecs (parts : List (List (Option Nat) × VecIx)) (ix : VecIx)
    (h : mergeVec parts = some ix) :
    ix.vecs = allVecSurvivors parts ∧
    (∀ nd v, (nd, v) ∈ ix.vecs ↔ ∃ p ∈ parts, ∃ d, (d, v) ∈ p.2.vecs ∧ vecNewNum p.1 d = some nd) ∧
    ix.vecs.length =
      (parts.map (fun p => (p.2.vecs.filter (fun dv => (vecNewNum p.1 dv.1).isSome)).length)).sum ∧
    ix.vecs ≠ [] ∧
    (∃ m0 v0 r, parts = (m0, v0) :: r ∧ ix.dim = v0.dim ∧ ix.metric = v0.metric) := by
  obtain ⟨m0, v0, r, hp, hne, rfl⟩ := (mergeVec_eq_some_iff parts ix).1 h
  refine ⟨rfl, ?_, ?_, hne, ⟨m0, v0, r, hp, rfl, rfl⟩⟩
  · intro nd v
    simp only [allVecSurvivors, List.mem_flatMap, mem_vecSurvivors]
  · simp only [allVecSurvivors, List.length_flatMap, vecSurvivors, List.length_map]

/-- `none` iff no vector survives: a field all of whose vectors were deleted (or which no
    input carries) has no vector index in the merged segment -/
theorem C15_none_iff (parts : List (List (Option Nat) × VecIx)) :
    mergeVec parts = none ↔ ∀ p ∈ parts, ∀ dv ∈ p.2.vecs, vecNewNum p.1 dv.1 = none := by
  rw [mergeVec_eq_none_iff, allVecSurvivors_eq_nil_iff]

/-- closure: merging a single index with nothing deleted gives the same index back -/
theorem C15_closure_identity (ix : VecIx) (n : Nat) (hne : ix.vecs ≠ [])
    (hr : ∀ dv ∈ ix.vecs, dv.1 < n) : mergeVec [(idMap n, ix)] = some ix := by
  have hs : allVecSurvivors [(idMap n, ix)] = ix.vecs := by
    rw [allVecSurvivors_cons, vecSurvivors_idMap ix n hr]
    exact List.append_nil _
  rw [mergeVec_cons, hs, if_neg hne]
  rfl

/-- closure: a merged index is an input like any other - merging it again (map `m'`),
    together with further inputs, is merging the original inputs under the composed maps -/
theorem C15_closure_compose (parts : List (List (Option Nat) × VecIx)) (ix : VecIx)
    (m' : List (Option Nat)) (rest : List (List (Option Nat) × VecIx))
    (h : mergeVec parts = some ix) :
    mergeVec ((m', ix) :: rest) =
      mergeVec (parts.map (fun p => (composeMap m' p.1, p.2)) ++ rest) := by
  obtain ⟨m0, v0, r, rfl, -, hix⟩ := (mergeVec_eq_some_iff parts ix).1 h
  have hs := allVecSurvivors_cons_merged m' ix ((m0, v0) :: r) rest (congrArg VecIx.vecs hix)
  subst hix
  rw [List.map_cons, List.cons_append] at hs ⊢
  -- both sides by `mergeVec_cons`: the same survivors (`hs`), dim and metric of `v0`, and the tag
  -- of the last input, which is `rest`'s if there is one and else `parts`'s (`lastOpt_append`)
  rw [mergeVec_cons, mergeVec_cons, hs, lastOpt_append, lastOpt_map]

/-- `C15_closure_compose` when no vector survives: the merged segment carries no index for the
    field, and the dropped inputs contribute nothing to any later merge either -/
theorem C15_closure_compose_none (parts : List (List (Option Nat) × VecIx))
    (m' : List (Option Nat)) (rest : List (List (Option Nat) × VecIx))
    (h : mergeVec parts = none) :
    (mergeVec (parts.map (fun p => (composeMap m' p.1, p.2)) ++ rest)).map (·.vecs) =
      (mergeVec rest).map (·.vecs) := by
  have hnil : allVecSurvivors (parts.map (fun p => (composeMap m' p.1, p.2))) = [] := by
    rw [← filterMap_allVecSurvivors, (mergeVec_eq_none_iff parts).1 h]
    rfl
  rw [mergeVec_map_vecs, mergeVec_map_vecs, allVecSurvivors_append, hnil, List.nil_append]

/-- `admissible` on the merged index = union (in input order) of `admissible` on the inputs
    under renumbering: on input `p` exclude the dropped documents and those renumbered into
    `ex`, keep those renumbered into the eligible set, and renumber the hits. -/
theorem C15_admissible_union (parts : List (List (Option Nat) × VecIx)) (ix : VecIx)
    (h : mergeVec parts = some ix)
    (hrange : ∀ p ∈ parts, ∀ dv ∈ p.2.vecs, dv.1 < p.1.length)
    (hmetric : ∀ p ∈ parts, p.2.metric = ix.metric)
    (q : List Int) (ex : List Nat) (elig : Option (List Nat)) :
    admissible ix q (some ex) elig =
      parts.flatMap (fun p =>
        (admissible p.2 q (some (exclPre p.1 ex)) (eligPre p.1 elig)).map (renumHit p.1)) := by
  rw [admissible_flatMap ix q (some ex) elig parts (C15_vecs parts ix h).1]
  exact List.flatMap_congr_mem (fun p hp => admissible_survivors p ix q ex elig (hrange p hp) (hmetric p hp))

/-- hence (C14): an exact search on the merged segment returns a best-k selection of what the
    inputs' surviving, non-excluded vectors offer -/
theorem C15_search_merged (parts : List (List (Option Nat) × VecIx)) (ix : VecIx)
    (h : mergeVec parts = some ix)
    (hrange : ∀ p ∈ parts, ∀ dv ∈ p.2.vecs, dv.1 < p.1.length)
    (hmetric : ∀ p ∈ parts, p.2.metric = ix.metric)
    (E : Engine) (hE : EngineOK E (VIndex.ofVecIx ix))
    (q : List Int) (k : Nat) (ex : List Nat) (hq : q.length = ix.dim) :
    validTopK ix.metric k
      (parts.flatMap (fun p =>
        (admissible p.2 q (some (exclPre p.1 ex)) none).map (renumHit p.1)))
      (search E (VIndex.ofVecIx ix) q k ex) = true := by
  have hs := search_topk E (VIndex.ofVecIx ix) (ofVecIx_nodup ix) hE ix.opt q k ex hq
  rw [ofVecIx_toVecIx, C15_admissible_union parts ix h hrange hmetric q ex none] at hs
  exact hs

/-! ### Non-vacuity -/

/-- input A: docs 0,1,2 (doc 1 has two vectors); input B: doc 0 with the same vector as A's doc 0 -/
def ixA : VecIx := { dim := 2, metric := 0, opt := 0, vecs := [(0, [1, 0]), (1, [1, 0]), (1, [0, 1]), (2, [5, 5])] }
def ixB : VecIx := { dim := 2, metric := 0, opt := 1, vecs := [(0, [1, 0])] }

/-- A's doc 0 deleted; A: 1 ↦ 0, 2 ↦ 1; B: 0 ↦ 2 -/
example : mergeVec [([none, some 0, some 1], ixA), ([some 2], ixB)] =
    some { dim := 2, metric := 0, opt := 1, vecs := [(0, [1, 0]), (0, [0, 1]), (1, [5, 5]), (2, [1, 0])] } := by
  decide +kernel
/-- everything deleted: no index -/
example : mergeVec [([none, none, none], ixA), ([none], ixB)] = none := by decide +kernel
/-- an input contributing nothing -/
example : mergeVec [([none, none, none], ixA), ([some 0], ixB)] =
    some { dim := 2, metric := 0, opt := 1, vecs := [(0, [1, 0])] } := by decide +kernel
/-- the union formula on the example: exclude new doc 2, query [0,0] -/
example : admissible { dim := 2, metric := 0, opt := 1, vecs := [(0, [1, 0]), (0, [0, 1]), (1, [5, 5]), (2, [1, 0])] }
      [0, 0] (some [2]) none = [⟨0, 1⟩, ⟨0, 1⟩, ⟨1, 50⟩] ∧
    exclPre [none, some 0, some 1] [2] = [0] ∧ exclPre [some 2] [2] = [0] := by decide +kernel

section Report
#print axioms C15_vecs
#print axioms C15_none_iff
#print axioms C15_closure_identity
#print axioms C15_closure_compose
#print axioms C15_closure_compose_none
#print axioms C15_admissible_union
#print axioms C15_search_merged
end Report

end Zap.C15
