/-
  Lemmas for ZapModel.Theory.Lock (part 2, `Crit`): operations executed entirely under one
  mutex are atomic - every interleaving is a sequentialisation.
-/
import ZapModel.Theory.Lock
import ZapProofs.Theory.Update

namespace Zap.Theory.Crit

variable {α σ τ : Type}

@[simp] theorem setThr_same (f : Nat → Thread α σ τ) (i : Nat) (t : Thread α σ τ) :
    setThr f i t i = t := by simp [setThr]

theorem setThr_other (f : Nat → Thread α σ τ) (i j : Nat) (t : Thread α σ τ) (h : j ≠ i) :
    setThr f i t j = f j := by simp [setThr, h]

theorem seqRun_append (impl : α → List (Micro σ τ)) (l0 : τ) (s0 : σ) (ops : List α) (o : α) :
    seqRun impl l0 s0 (ops ++ [o]) = opSem l0 (impl o) (seqRun impl l0 s0 ops) := by
  simp [seqRun, List.foldl_append]

theorem logOf_append_same (log : List (Nat × α)) (i : Nat) (op : α) :
    logOf (log ++ [(i, op)]) i = logOf log i ++ [op] := by
  simp [logOf, List.filter_append]

theorem logOf_append_other (log : List (Nat × α)) (i j : Nat)
    (op : α) (h : j ≠ i) :
    logOf (log ++ [(i, op)]) j = logOf log j := by
  have : (i == j) = false := by simpa using fun h' => h h'.symm
  simp [logOf, List.filter_append, this]

/-- The inductive invariant of the locked system.  An operation enters the log when it ACQUIRES the
    mutex, so while thread `k` is inside, the sequential result of the log is what `k`'s remaining
    micro-steps will make of the current shared state (`final_busy`). -/
structure CInv (impl : α → List (Micro σ τ)) (l0 : τ) (s0 : σ) (progs : Nat → List α) (s : State α σ τ) : Prop where
  busy_owner : ∀ j, (s.thr j).busy = true → s.owner = some j
  owner_busy : ∀ k, s.owner = some k → (s.thr k).busy = true
  final_idle : s.owner = none → s.shared = seqRun impl l0 s0 (s.log.map (·.2))
  final_busy : ∀ k, s.owner = some k →
    (runMicro (s.thr k).cur s.shared (s.thr k).scratch).1 = seqRun impl l0 s0 (s.log.map (·.2))
  order : ∀ i, logOf s.log i ++ (s.thr i).todo = progs i

theorem cinv_init (impl : α → List (Micro σ τ)) (l0 : τ) (s0 : σ) (progs : Nat → List α) :
    CInv impl l0 s0 progs (init s0 l0 progs) where
  busy_owner := by intro j h; simp [init] at h
  owner_busy := by intro k h; simp [init] at h
  final_idle := by intro _; rfl
  final_busy := by intro k h; simp [init] at h
  order := by intro i; simp [init, logOf]

theorem cinv_step (impl : α → List (Micro σ τ)) (l0 : τ) (s0 : σ) (progs : Nat → List α) (s : State α σ τ)
    (i : Nat) (hI : CInv impl l0 s0 progs s) : CInv impl l0 s0 progs (step impl true l0 s i) := by
  cases hb : (s.thr i).busy with
  | true =>
    have hown : s.owner = some i := hI.busy_owner i hb
    have hfin := hI.final_busy i hown
    cases hc : (s.thr i).cur with
    | cons μ r =>
      have hstep : step impl true l0 s i =
          { s with shared := (μ s.shared (s.thr i).scratch).1,
                   thr := setThr s.thr i { s.thr i with cur := r,
                                                        scratch := (μ s.shared (s.thr i).scratch).2 } } := by
        simp [step, hb, hc]
      rw [hstep]
      rw [hc] at hfin
      exact
        { busy_owner := forall_update (P := fun j (t : Thread α σ τ) => t.busy = true → s.owner = some j) _ i _
            (fun _ => hown) fun j _ => hI.busy_owner j
          owner_busy := fun k hk => by
            obtain rfl : k = i := Option.some.inj (hk.symm.trans hown)
            simpa using hb
          final_idle := fun h => nomatch h.symm.trans hown
          final_busy := fun k hk => by
            obtain rfl : k = i := Option.some.inj (hk.symm.trans hown)
            simpa [runMicro] using hfin
          order := forall_update (P := fun j (t : Thread α σ τ) => logOf s.log j ++ t.todo = progs j) _ i _
            (hI.order i) fun j _ => hI.order j }
    | nil =>
      have hstep : step impl true l0 s i =
          { s with owner := none, thr := setThr s.thr i { s.thr i with busy := false } } := by
        simp [step, hb, hc]
      rw [hstep]
      rw [hc] at hfin
      exact
        { busy_owner := forall_update (P := fun j (t : Thread α σ τ) => t.busy = true → none = some j) _ i _
            (fun h => absurd h Bool.false_ne_true)
            fun j hji hj => absurd (Option.some.inj ((hI.busy_owner j hj).symm.trans hown)) hji
          owner_busy := fun k hk => nomatch hk
          final_idle := fun _ => hfin
          final_busy := fun k hk => nomatch hk
          order := forall_update (P := fun j (t : Thread α σ τ) => logOf s.log j ++ t.todo = progs j) _ i _
            (hI.order i) fun j _ => hI.order j }
  | false =>
    cases ht : (s.thr i).todo with
    | nil =>
      have hstep : step impl true l0 s i = s := by simp [step, hb, ht]
      rw [hstep]; exact hI
    | cons op rest =>
      cases ho : s.owner with
      | some k =>
        have hstep : step impl true l0 s i = s := by simp [step, hb, ht, ho]
        rw [hstep]; exact hI
      | none =>
        have hstep : step impl true l0 s i =
            { s with owner := some i,
                     thr := setThr s.thr i { todo := rest, cur := impl op, busy := true, scratch := l0 },
                     log := s.log ++ [(i, op)] } := by
          simp [step, hb, ht, ho]
        rw [hstep]
        exact
          { busy_owner := forall_update (P := fun j (t : Thread α σ τ) => t.busy = true → some i = some j) _ i _
              (fun _ => rfl) fun j _ hj => nomatch (hI.busy_owner j hj).symm.trans ho
            owner_busy := fun k hk => by
              obtain rfl : i = k := Option.some.inj hk
              simp
            final_idle := fun h => nomatch h
            final_busy := fun k hk => by
              obtain rfl : i = k := Option.some.inj hk
              simp only [setThr_same, List.map_append, List.map_cons, List.map_nil]
              rw [seqRun_append, ← hI.final_idle ho]
              rfl
            order := forall_update
              (P := fun j (t : Thread α σ τ) => logOf (s.log ++ [(i, op)]) j ++ t.todo = progs j) _ i _
              (by rw [logOf_append_same, List.append_assoc, ← hI.order i, ht]; rfl)
              fun j hji => by rw [logOf_append_other _ _ _ _ hji]; exact hI.order j }

theorem cinv_exec (impl : α → List (Micro σ τ)) (l0 : τ) (s0 : σ) (progs : Nat → List α)
    (sched : List Nat) :
    CInv impl l0 s0 progs (exec impl true l0 (init s0 l0 progs) sched) :=
  List.foldlRecOn sched _ (cinv_init impl l0 s0 progs) fun s hI i _ =>
    cinv_step impl l0 s0 progs s i hI

/-- Every interleaving is a sequentialisation; the witness is the ghost `log`, the order in which
    the operations took the mutex. -/
theorem atomic (impl : α → List (Micro σ τ)) (l0 : τ) (s0 : σ) (progs : Nat → List α) (sched : List Nat) :
    let s := exec impl true l0 (init s0 l0 progs) sched
    (∀ i, logOf s.log i ++ (s.thr i).todo = progs i)
    ∧ (s.owner = none → s.shared = seqRun impl l0 s0 (s.log.map (·.2)))
    ∧ (∀ k, s.owner = some k →
        (runMicro (s.thr k).cur s.shared (s.thr k).scratch).1 = seqRun impl l0 s0 (s.log.map (·.2))) := by
  have hI := cinv_exec impl l0 s0 progs sched
  exact ⟨hI.order, hI.final_idle, hI.final_busy⟩

theorem atomic_finished (impl : α → List (Micro σ τ)) (l0 : τ) (s0 : σ) (progs : Nat → List α)
    (sched : List Nat)
    (hdone : ∀ i, ((exec impl true l0 (init s0 l0 progs) sched).thr i).todo = []
                ∧ ((exec impl true l0 (init s0 l0 progs) sched).thr i).busy = false) :
    let s := exec impl true l0 (init s0 l0 progs) sched
    (∀ i, logOf s.log i = progs i) ∧ s.shared = seqRun impl l0 s0 (s.log.map (·.2)) := by
  have hI := cinv_exec impl l0 s0 progs sched
  refine ⟨?_, ?_⟩
  · intro i
    have := hI.order i
    rw [(hdone i).1] at this
    simpa using this
  · apply hI.final_idle
    cases ho : (exec impl true l0 (init s0 l0 progs) sched).owner with
    | none => rfl
    | some k =>
      have := hI.owner_busy k ho
      rw [(hdone k).2] at this; cases this

end Zap.Theory.Crit
