/-
  C08 / D1 link to the source: structural facts about `PostingsList.read` and
  `PostingsList.Count` (posting.go), extracted by tools/gofacts into
  `Gen.Facts.readGeneralAssigned` / `countReads` on every run.

  Modelled rather than verified: the lists say THAT a field is assigned on the
  general (non 1-hit) path of `read`, not TO WHAT (tools/README.md, item 3); that
  the assigned value is the reset value is established by the differential run
  and by `ZapProofs.Props.C08` (`dictIterate true ..`, whose `clears1Hit = true`
  is the meaning given to this fact).
-/
import ZapModel.Gen.Facts
import ZapModel.Theory.Str

namespace Zap.C08Facts
open Zap.Gen

/-- Fields that `Dictionary.postingsListInit` re-initialises itself before `read` is
    called (`*rv = PostingsList{}` followed by `rv.except = except`). -/
def initFields : List String := ["except"]

/-- Decidable side condition: both 1-hit fields are assigned on the general path, every
    field `Count` reads is re-initialised on the general path (by `read` or by
    `postingsListInit`), `Count` reads the fields the model's `count` depends on, and no
    entry is UNRECOGNISED. -/
def sideCondition (readGeneral countReads : List String) : Bool :=
  readGeneral.contains "normBits1Hit" && readGeneral.contains "docNum1Hit"
  && countReads.all (fun f => readGeneral.contains f || initFields.contains f)
  && ["normBits1Hit", "docNum1Hit", "postings"].all (countReads.contains ·)
  && Theory.allRecognised readGeneral && Theory.allRecognised countReads

theorem sideCondition_holds :
    sideCondition Facts.readGeneralAssigned Facts.countReads = true := by decide +kernel

/-- The clauses of `sideCondition`, by name (why: `C17.Checked`). -/
structure Checked (readGeneral countReads : List String) : Prop where
  normBits : readGeneral.contains "normBits1Hit" = true
  docNum : readGeneral.contains "docNum1Hit" = true
  reinitialised : countReads.all (fun f => readGeneral.contains f || initFields.contains f) = true
  counted : ["normBits1Hit", "docNum1Hit", "postings"].all (countReads.contains ·) = true
  readRecognised : Theory.allRecognised readGeneral = true
  countRecognised : Theory.allRecognised countReads = true

theorem checked {readGeneral countReads : List String}
    (h : sideCondition readGeneral countReads = true) : Checked readGeneral countReads := by
  simp only [sideCondition, Bool.and_eq_true] at h
  obtain ⟨⟨⟨⟨⟨h1, h2⟩, h3⟩, h4⟩, h5⟩, h6⟩ := h
  exact ⟨h1, h2, h3, h4, h5, h6⟩

/-- D1 link: the general path of `read` assigns both 1-hit fields. -/
theorem read_clears_1hit :
    "normBits1Hit" ∈ Facts.readGeneralAssigned ∧ "docNum1Hit" ∈ Facts.readGeneralAssigned :=
  ⟨List.contains_iff_mem.mp (checked sideCondition_holds).normBits,
   List.contains_iff_mem.mp (checked sideCondition_holds).docNum⟩

/-- Every field `Count` reads is re-initialised on the general path. -/
theorem count_reads_reinitialised :
    Facts.countReads ⊆ Facts.readGeneralAssigned ++ initFields := by
  intro f hf
  have := List.all_eq_true.mp (checked sideCondition_holds).reinitialised f hf
  simpa only [Bool.or_eq_true, List.contains_iff_mem, ← List.mem_append] using this

/-- The same for the 1-hit path (it returns early, having set both 1-hit fields; `postings`
    is not assigned there, which is why the model's `count` looks at `normBits1Hit` first). -/
theorem read_1hit_sets_1hit :
    "normBits1Hit" ∈ Facts.read1HitAssigned ∧ "docNum1Hit" ∈ Facts.read1HitAssigned := by
  decide +kernel

/-- The pre-fix tree (D1) is rejected: there the general path assigned neither 1-hit field. -/
example :
    sideCondition
      ["postingsOffset", "freqOffset", "locOffset", "bytesRead", "postings", "chunkSize"]
      ["docNum1Hit", "except", "normBits1Hit", "postings"] = false :=
  Bool.eq_false_iff.mpr fun h => absurd (checked h).normBits (by decide +kernel)

/-- An extraction failure is rejected. -/
example :
    sideCondition Facts.readGeneralAssigned
      ["docNum1Hit", "except", "normBits1Hit", "postings", "UNRECOGNISED method call p.foo"]
      = false :=
  Bool.eq_false_iff.mpr fun h => absurd (checked h).countRecognised (by decide +kernel)

end Zap.C08Facts

#print axioms Zap.C08Facts.sideCondition_holds
#print axioms Zap.C08Facts.read_clears_1hit
#print axioms Zap.C08Facts.count_reads_reinitialised
