/-
  ZapProofs.Syn.Merge: the synonym section of a merge (C13).  `mergeThes` in closed form: it walks
  the sorted union of the inputs' keys, numbers the synonym terms by first appearance
  (`mergedIds`) and stores per key the inputs' surviving (synonym, new document) pairs (`items`):
  `mergedThes_stores`.  Then the thesaurus field of `mergeSegs`, and renaming of internal ids.
-/
import ZapProofs.Syn.Thes
import ZapProofs.Merge.Fields

namespace Zap.SynL
open Zap.Spec

abbrev Part := List (Option Nat) × Thes

def itemsOf (k : Bytes) (p : Part) : List (Bytes × Nat) :=
  (p.2.pairs k).filterMap fun q => (p.1.getD q.2 none).map fun nd => (q.1, nd)

def items (parts : List Part) (k : Bytes) : List (Bytes × Nat) := parts.flatMap (itemsOf k)

def addItem (a : List Bytes × List (Nat × Nat)) (it : Bytes × Nat) : List Bytes × List (Nat × Nat) :=
  (getOrDefine a.1 it.1, insertCode (synIdOf (getOrDefine a.1 it.1) it.1, it.2) a.2)

/-- The inner loop of `mergeThes` for one key: the ids defined so far and the key's code bitmap. -/
def runItems (its : List (Bytes × Nat)) (a : List Bytes × List (Nat × Nat)) : List Bytes × List (Nat × Nat) :=
  its.foldl addItem a

def stepKey (parts : List Part) (acc : List Bytes × List (Bytes × List (Nat × Nat))) (k : Bytes) :
    List Bytes × List (Bytes × List (Nat × Nat)) :=
  ((runItems (items parts k) (acc.1, [])).1, acc.2 ++ [(k, (runItems (items parts k) (acc.1, [])).2)])

/-- `mergeThes`'s walk over the keys `ks`: (ids in order of first appearance, rows by key). -/
def walkOf (parts : List Part) (ks : List Bytes) : List Bytes × List (Bytes × List (Nat × Nat)) :=
  ks.foldl (stepKey parts) ([], [])

def partKeys (parts : List Part) : List Bytes := MergeL.mergedKeys (fun p : Part => p.2.terms) parts

theorem mergeThes_nil : mergeThes [] = none := rfl

theorem mergeThes_eq_walk (parts : List Part) (h : parts ≠ []) :
    mergeThes parts = some
      { terms := (walkOf parts (partKeys parts)).2.filter (fun p => !p.2.isEmpty),
        table := tableOf (walkOf parts (partKeys parts)).1 } := by
  unfold mergeThes walkOf
  rw [if_neg (mt List.isEmpty_iff.1 h)]
  dsimp only
  -- the model's step function is `stepKey`: destructure the accumulator, fold the parts' items
  rw [List.foldl_congr_mem (g := stepKey parts)]
  · rfl
  · rintro ⟨ids, out⟩ k -
    unfold stepKey runItems items
    rw [List.foldl_flatMap, List.foldl_congr_mem (g := fun acc x => List.foldl addItem acc (itemsOf k x))]
    intro a p _
    unfold itemsOf Thes.pairs
    cases lookup k p.2.terms with
    | none => rfl
    | some cs =>
      rw [Option.getD_some, List.foldl_filterMap, List.foldl_map]
      apply List.foldl_congr_mem
      intro a c _
      cases p.1.getD c.2 none <;> rfl

/-- The ids after a run of items are those before plus the new terms; a code written on the way
    carries the id its term has in any later numbering `fin` (ids are only ever appended). -/
theorem runItems_eq (fin : List Bytes) (its : List (Bytes × Nat)) (ids : List Bytes) (codes : List (Nat × Nat))
    (hfin : (its.map (·.1)).foldl getOrDefine ids <+: fin) :
    runItems its (ids, codes) =
      ((its.map (·.1)).foldl getOrDefine ids, insAll (its.map (fun it => (synIdOf fin it.1, it.2))) codes) := by
  induction its generalizing ids codes with
  | nil => rfl
  | cons it rest ih =>
    have hpre := (foldl_getOrDefine_spec (rest.map (·.1)) (getOrDefine ids it.1)).1
    obtain ⟨more, hmore⟩ := List.IsPrefix.trans hpre hfin
    have hid : synIdOf (getOrDefine ids it.1) it.1 = synIdOf fin it.1 := by
      rw [← hmore, synIdOf_append_of_mem (mem_getOrDefine.2 (Or.inr rfl))]
    show runItems rest (getOrDefine ids it.1, insertCode (synIdOf (getOrDefine ids it.1) it.1, it.2) codes) = _
    rw [ih _ _ hfin, hid]
    rfl

theorem walk_eq (parts : List Part) (fin : List Bytes) (ks : List Bytes) (ids : List Bytes)
    (out : List (Bytes × List (Nat × Nat)))
    (hfin : ((ks.flatMap (items parts)).map (·.1)).foldl getOrDefine ids <+: fin) :
    ks.foldl (stepKey parts) (ids, out) =
      (((ks.flatMap (items parts)).map (·.1)).foldl getOrDefine ids,
       out ++ ks.map (fun k => (k, codesOf fin (items parts k)))) := by
  induction ks generalizing ids out with
  | nil => simp
  | cons k ks ih =>
    rw [List.flatMap_cons, List.map_append, List.foldl_append] at hfin ⊢
    have hpre := (foldl_getOrDefine_spec ((ks.flatMap (items parts)).map (·.1))
      (((items parts k).map (·.1)).foldl getOrDefine ids)).1
    have hstep : stepKey parts (ids, out) k =
        (((items parts k).map (·.1)).foldl getOrDefine ids, out ++ [(k, codesOf fin (items parts k))]) := by
      unfold stepKey
      rw [runItems_eq fin _ _ _ (List.IsPrefix.trans hpre hfin)]
      rfl
    rw [List.foldl_cons, hstep, ih _ _ hfin, List.map_cons, List.append_assoc]
    rfl

/-- The numbering the merge assigns: first appearance, walking the keys ascending, the inputs in
    order, each input's codes ascending. -/
def mergedIds (parts : List Part) : List Bytes :=
  (((partKeys parts).flatMap (items parts)).map (·.1)).foldl getOrDefine []

theorem mergedIds_nodup (parts : List Part) : (mergedIds parts).Nodup :=
  (foldl_getOrDefine_spec _ []).2.1 List.nodup_nil

theorem mem_mergedIds {parts : List Part} {s : Bytes} :
    s ∈ mergedIds parts ↔ ∃ k ∈ partKeys parts, ∃ it ∈ items parts k, it.1 = s := by
  unfold mergedIds
  rw [(foldl_getOrDefine_spec _ []).2.2]
  simp only [List.not_mem_nil, false_or, List.mem_map, List.mem_flatMap]
  constructor
  · rintro ⟨it, ⟨k, hk, hit⟩, e⟩; exact ⟨k, hk, it, hit, e⟩
  · rintro ⟨k, hk, it, hit, e⟩; exact ⟨it, ⟨k, hk, hit⟩, e⟩

def mergedThes (parts : List Part) : Thes :=
  { terms := ((partKeys parts).map (fun k => (k, codesOf (mergedIds parts) (items parts k)))).filter
      (fun p => !p.2.isEmpty),
    table := tableOf (mergedIds parts) }

theorem mergeThes_eq_merged (parts : List Part) (hne : parts ≠ []) : mergeThes parts = some (mergedThes parts) := by
  rw [mergeThes_eq_walk parts hne, walkOf, walk_eq parts (mergedIds parts) _ [] [] (List.prefix_refl _),
    List.nil_append]
  -- the projections of the pair first: `rfl` alone unfolds `tableOf` over the walk before it reduces them
  dsimp only
  rfl

theorem mergeThes_isSome (parts : List Part) : (mergeThes parts).isSome = true ↔ parts ≠ [] := by
  cases parts with
  | nil => simp [mergeThes_nil]
  | cons p ps => simp [mergeThes_eq_merged]

def PartsSorted (parts : List Part) : Prop := ∀ p ∈ parts, SortedLt (p.2.terms.map (·.1))

theorem mem_itemsOf {k : Bytes} {p : Part} {q : Bytes × Nat} :
    q ∈ itemsOf k p ↔ ∃ d, (q.1, d) ∈ p.2.pairs k ∧ p.1.getD d none = some q.2 := by
  unfold itemsOf
  simp only [List.mem_filterMap, Option.map_eq_some_iff]
  constructor
  · rintro ⟨q0, hq, nd, h1, rfl⟩
    exact ⟨q0.2, hq, h1⟩
  · rintro ⟨d, hq, h1⟩
    exact ⟨(q.1, d), hq, q.2, h1, rfl⟩

theorem itemsOf_eq_nil {k : Bytes} {p : Part} (h : k ∉ p.2.terms.map (·.1)) : itemsOf k p = [] := by
  unfold itemsOf Thes.pairs
  rw [lookup_eq_none_iff.2 h]
  rfl

theorem mergedThes_stores (parts : List Part) (hs : PartsSorted parts) :
    Stores (mergedThes parts) (mergedIds parts) (items parts) := by
  obtain ⟨hsorted, hmem⟩ := MergeL.mergedKeys_spec (fun p : Part => p.2.terms) parts hs
  have hempty : ∀ k, k ∉ partKeys parts → items parts k = [] := fun k hk =>
    List.flatMap_eq_nil_iff.2 fun p hp => itemsOf_eq_nil fun h => hk ((hmem k).2 ⟨p, hp, h⟩)
  refine stores_of_lookup ?_ (mergedIds_nodup parts) (fun k it hit => ?_) (fun k => ?_)
  · rw [List.map_map]
    exact (List.map_id'' (fun _ => rfl) _).symm ▸ hsorted
  · by_cases hk : k ∈ partKeys parts
    · exact mem_mergedIds.2 ⟨k, hk, it, hit, rfl⟩
    · rw [hempty k hk] at hit
      cases hit
  · rw [lookup_map_keys]
    split
    · rfl
    · rw [hempty k ‹_›]
      rfl

theorem mergeThes_stores {parts : List Part} (hs : PartsSorted parts) :
    OptStores (mergeThes parts) (mergedIds parts) (items parts) := by
  by_cases hne : parts = []
  · subst hne
    exact fun _ => rfl
  · rw [mergeThes_eq_merged parts hne]
    exact mergedThes_stores parts hs

def thesPartsOf (nm : Name) (segs : List Seg) (maps : List (List (Option Nat))) : List Part :=
  (segs.zip maps).filterMap (fun p => (p.1.thes? nm).map (fun t => (p.2, t)))

theorem mem_thesPartsOf {nm : Name} {segs : List Seg} {drops : List (Option (List Nat))} {part : Part} :
    part ∈ thesPartsOf nm segs (remapAll segs drops 0) ↔
      ∃ i, ∃ hi : i < segs.length, segs[i].thes? nm = some part.2 ∧
        part.1 = (remapAll segs drops 0).getD i [] := by
  unfold thesPartsOf
  simp only [List.mem_filterMap, MergeL.mem_zip_remapAll, Option.map_eq_some_iff]
  constructor
  · rintro ⟨_, ⟨i, hi, rfl⟩, t, ht, rfl⟩
    exact ⟨i, hi, ht, rfl⟩
  · rintro ⟨i, hi, ht, hm⟩
    exact ⟨_, ⟨i, hi, rfl⟩, part.2, ht, Prod.ext hm.symm rfl⟩

theorem mergeSegs_thes? (v : Bool) (m : Nat) (segs : List Seg) (drops : List (Option (List Nat)))
    (hne : newDocCount segs drops ≠ 0) (nm : Name) :
    (mergeSegs v m segs drops).1.thes? nm = mergeThes (thesPartsOf nm segs (remapAll segs drops 0)) := by
  unfold Seg.thes?
  rw [MergeL.mergeSegs_field? v m segs drops hne]
  by_cases hn : nm ∈ mergedFieldNames segs
  · rw [if_pos hn]
    rfl
  · -- no input has the field
    have hnil : thesPartsOf nm segs (remapAll segs drops 0) = [] :=
      List.filterMap_eq_nil_iff.2 fun z hz => by
        unfold Seg.thes?
        rw [MergeL.field?_none_of_not_merged hn (List.of_mem_zip hz).1]
        rfl
    rw [if_neg hn, hnil]
    rfl

theorem mem_items_segs {nm : Name} {segs : List Seg} {drops : List (Option (List Nat))} (k : Bytes)
    (q : Bytes × Nat) :
    q ∈ items (thesPartsOf nm segs (remapAll segs drops 0)) k ↔
      ∃ i, ∃ hi : i < segs.length, ∃ d, (q.1, d) ∈ segs[i].synonyms nm k none ∧
        ((remapAll segs drops 0).getD i []).getD d none = some q.2 := by
  unfold items
  rw [List.mem_flatMap]
  constructor
  · rintro ⟨part, hpart, hq⟩
    obtain ⟨i, hi, ht, hm⟩ := mem_thesPartsOf.1 hpart
    obtain ⟨d, h1, h2⟩ := mem_itemsOf.1 hq
    exact ⟨i, hi, d, mem_synonyms.2 ⟨⟨_, ht, h1⟩, rfl⟩, hm ▸ h2⟩
  · rintro ⟨i, hi, d, hsyn, hmap⟩
    obtain ⟨⟨t, ht, h1⟩, _⟩ := mem_synonyms.1 hsyn
    exact ⟨((remapAll segs drops 0).getD i [], t), mem_thesPartsOf.2 ⟨i, hi, ht, rfl⟩,
      mem_itemsOf.2 ⟨d, h1, hmap⟩⟩

theorem mergeSegs_thes_stores (v : Bool) (m : Nat) (segs : List Seg) (drops : List (Option (List Nat)))
    (hne : newDocCount segs drops ≠ 0) (nm : Name)
    (hs : ∀ s ∈ segs, ∀ t, s.thes? nm = some t → SortedLt (t.terms.map (·.1))) :
    OptStores ((mergeSegs v m segs drops).1.thes? nm) (mergedIds (thesPartsOf nm segs (remapAll segs drops 0)))
      (items (thesPartsOf nm segs (remapAll segs drops 0))) := by
  rw [mergeSegs_thes? v m segs drops hne]
  refine mergeThes_stores fun part hpart => ?_
  obtain ⟨z, hz, he⟩ := List.mem_filterMap.1 hpart
  obtain ⟨t, ht, rfl⟩ := Option.map_eq_some_iff.1 he
  exact hs z.1 (List.of_mem_zip hz).1 t ht

/-- C13 core, without exclusion (`mem_synonyms_ex` adds it). -/
theorem merged_pairs_mem (v : Bool) (m : Nat) (segs : List Seg) (drops : List (Option (List Nat)))
    (hne : newDocCount segs drops ≠ 0) (nm : Name) (term : Bytes)
    (hs : ∀ s ∈ segs, ∀ t, s.thes? nm = some t → SortedLt (t.terms.map (·.1))) (q : Bytes × Nat) :
    q ∈ (mergeSegs v m segs drops).1.synonyms nm term none ↔
      ∃ i, ∃ hi : i < segs.length, ∃ d, (q.1, d) ∈ segs[i].synonyms nm term none ∧
        ((remapAll segs drops 0).getD i []).getD d none = some q.2 := by
  rw [← mem_items_segs, mem_synonyms,
    (mergeSegs_thes_stores v m segs drops hne nm hs).mem_pairs]
  exact and_iff_left rfl

theorem merged_thesTerms_mem (v : Bool) (m : Nat) (segs : List Seg) (drops : List (Option (List Nat)))
    (hne : newDocCount segs drops ≠ 0) (nm : Name) (term : Bytes)
    (hs : ∀ s ∈ segs, ∀ t, s.thes? nm = some t → SortedLt (t.terms.map (·.1))) :
    term ∈ (mergeSegs v m segs drops).1.thesTerms nm ↔
      ∃ i, ∃ hi : i < segs.length, ∃ d syn nd, (syn, d) ∈ segs[i].synonyms nm term none ∧
        ((remapAll segs drops 0).getD i []).getD d none = some nd := by
  rw [mem_thesTerms, (mergeSegs_thes_stores v m segs drops hne nm hs).mem_terms]
  constructor
  · intro h
    obtain ⟨q, hq⟩ := List.exists_mem_of_ne_nil _ h
    obtain ⟨i, hi, d, h1, h2⟩ := (mem_items_segs term q).1 hq
    exact ⟨i, hi, d, q.1, q.2, h1, h2⟩
  · rintro ⟨i, hi, d, syn, nd, h1, h2⟩
    exact List.ne_nil_of_mem ((mem_items_segs term (syn, nd)).2 ⟨i, hi, d, h1, h2⟩)

theorem merged_thes_wf (v : Bool) (m : Nat) (segs : List Seg) (drops : List (Option (List Nat)))
    (hne : newDocCount segs drops ≠ 0)
    (hs : ∀ s ∈ segs, ∀ nm t, s.thes? nm = some t → SortedLt (t.terms.map (·.1))) :
    SegThesWF (mergeSegs v m segs drops).1 :=
  fun nm _ ht => (mergeSegs_thes_stores v m segs drops hne nm fun s hs' t ht => hs s hs' nm t ht).wf ht

theorem merged_thes?_isSome (v : Bool) (m : Nat) (segs : List Seg) (drops : List (Option (List Nat)))
    (hne : newDocCount segs drops ≠ 0) (nm : Name) :
    ((mergeSegs v m segs drops).1.thes? nm).isSome = true ↔ ∃ s ∈ segs, (s.thes? nm).isSome = true := by
  rw [mergeSegs_thes? v m segs drops hne, mergeThes_isSome]
  constructor
  · intro h
    obtain ⟨part, hpart⟩ := List.exists_mem_of_ne_nil _ h
    obtain ⟨i, hi, ht, _⟩ := mem_thesPartsOf.1 hpart
    exact ⟨segs[i], List.getElem_mem hi, by rw [ht]; rfl⟩
  · rintro ⟨s, hs, h⟩
    obtain ⟨i, hi, rfl⟩ := List.mem_iff_getElem.1 hs
    obtain ⟨t, ht⟩ := Option.isSome_iff_exists.1 h
    exact List.ne_nil_of_mem ((mem_thesPartsOf (part := ((remapAll segs drops 0).getD i [], t))).2 ⟨i, hi, ht, rfl⟩)

theorem lookupNat_rename {f : Nat → Nat} (hinj : ∀ a b, f a = f b → a = b) (i : Nat)
    (tbl : List (Nat × Bytes)) :
    lookup (f i) (tbl.map (fun e => (f e.1, e.2))) = lookup i tbl := by
  have := lookup_filterMap_key (β := Bytes) (fun i => some (f i))
    (fun a b _ ha hb => hinj a b (Option.some.inj (ha.trans hb.symm))) (a := i) rfl tbl
  simpa only [Option.map_some, List.filterMap_eq_map', Function.comp_def] using this

theorem lookup_renameThes_terms (f : Nat → Nat) (t : Thes) (k : Bytes) :
    lookup k (renameThes f t).terms =
      (lookup k t.terms).map (fun cs => insAll (cs.map (fun c => (f c.1, c.2))) []) := by
  unfold renameThes
  exact lookup_map_val (fun _ cs => insAll (cs.map (fun c => (f c.1, c.2))) []) k t.terms

theorem mem_pairs_renameThes {f : Nat → Nat} (hinj : ∀ a b, f a = f b → a = b) (t : Thes) (k : Bytes)
    (q : Bytes × Nat) : q ∈ (renameThes f t).pairs k ↔ q ∈ t.pairs k := by
  have htab : ∀ i, lookup (f i) (renameThes f t).table = lookup i t.table :=
    fun i => lookupNat_rename hinj i t.table
  unfold Thes.pairs
  rw [lookup_renameThes_terms]
  cases lookup k t.terms with
  | none => exact Iff.rfl
  | some cs =>
    simp only [Option.map_some, Option.getD_some, List.mem_map, mem_insAll, List.not_mem_nil, or_false]
    constructor
    · rintro ⟨c', ⟨c, hc, rfl⟩, rfl⟩; exact ⟨c, hc, by rw [htab]⟩
    · rintro ⟨c, hc, rfl⟩; exact ⟨_, ⟨c, hc, rfl⟩, by rw [htab]⟩

theorem renameSegThes_thes? (f : Name → Nat → Nat) (s : Seg) (n : Name) :
    (renameSegThes f s).thes? n = (s.thes? n).map (renameThes (f n)) := by
  have hl : (renameSegThes f s).loadedFields = s.loadedFields.map
      (fun fm => { fm with thes := fm.thes.map (renameThes (f fm.name)) }) := by
    unfold Seg.loadedFields renameSegThes
    split
    · exact List.map_drop.symm
    · rfl
  unfold Seg.thes? Seg.field?
  rw [hl, List.find?_map]
  cases hq : s.loadedFields.find? (fun x => x.name = n) with
  | none => simp [Function.comp_def, hq]
  | some fm =>
    have := List.find?_some hq
    simp only [decide_eq_true_eq] at this
    simp [Function.comp_def, hq, this]

theorem renameSegThes_synonyms (f : Name → Nat → Nat) (hinj : ∀ nm a b, f nm a = f nm b → a = b)
    (s : Seg) (n : Name) (term : Bytes) (ex : Option (List Nat)) (q : Bytes × Nat) :
    q ∈ (renameSegThes f s).synonyms n term ex ↔ q ∈ s.synonyms n term ex := by
  rw [mem_synonyms, mem_synonyms, renameSegThes_thes?]
  cases s.thes? n with
  | none => exact Iff.rfl
  | some t => simp only [Option.map_some, Option.some.injEq, exists_eq_left', mem_pairs_renameThes (hinj n)]

theorem renameThes_keys (f : Nat → Nat) (t : Thes) :
    (renameThes f t).terms.map (·.1) = t.terms.map (·.1) := by
  unfold renameThes
  simp only [List.map_map]
  rfl

theorem renameThes_wf {f : Nat → Nat} (hinj : ∀ a b, f a = f b → a = b) {t : Thes} (h : ThesWF t) :
    ThesWF (renameThes f t) := by
  refine ⟨(renameThes_keys f t).symm ▸ h.sorted, ?_, ?_, ?_, ?_⟩
  · rintro _ hp
    obtain ⟨p, hp0, rfl⟩ := List.mem_map.1 hp
    exact ⟨fun e => (h.codesAsc p hp0).1 (List.map_eq_nil_iff.1 (insAll_eq_nil.1 e).1),
      pairwise_insAll _ List.Pairwise.nil⟩
  · rintro _ hp c' hc'
    obtain ⟨p, hp0, rfl⟩ := List.mem_map.1 hp
    obtain ⟨c, hc, rfl⟩ := List.mem_map.1 ((mem_insAll.1 hc').resolve_right List.not_mem_nil)
    exact (lookupNat_rename hinj c.1 t.table).symm ▸ h.idKnown p hp0 c hc
  · have := h.idsDistinct.map_on fun a _ b _ e => hinj a b e
    rw [List.map_map] at this
    show ((t.table.map _).map _).Nodup
    rw [List.map_map]
    exact this
  · show ((t.table.map _).map _).Nodup
    rw [List.map_map]
    exact h.synsDistinct

theorem renameSegThes_wf (f : Name → Nat → Nat) (hinj : ∀ nm a b, f nm a = f nm b → a = b)
    {s : Seg} (h : SegThesWF s) : SegThesWF (renameSegThes f s) := by
  intro n t ht
  rw [renameSegThes_thes?] at ht
  obtain ⟨t0, ht0, rfl⟩ := Option.map_eq_some_iff.1 ht
  exact renameThes_wf (hinj n) (h n t0 ht0)

def renameAll (f : Nat → Name → Nat → Nat) (segs : List Seg) : List Seg :=
  segs.zipIdx.map (fun p => renameSegThes (f p.2) p.1)

theorem renameAll_length (f : Nat → Name → Nat → Nat) (segs : List Seg) :
    (renameAll f segs).length = segs.length := by simp [renameAll]

theorem renameAll_get (f : Nat → Name → Nat → Nat) (segs : List Seg) (i : Nat) (hi : i < segs.length) :
    (renameAll f segs)[i]'(by rw [renameAll_length]; exact hi) = renameSegThes (f i) segs[i] := by
  simp [renameAll]

theorem renameAll_numDocs (f : Nat → Name → Nat → Nat) (segs : List Seg) :
    segs.map (·.numDocs) = (renameAll f segs).map (·.numDocs) := by
  refine List.ext_getElem (by simp [renameAll_length]) fun i h1 h2 => ?_
  simp only [List.getElem_map, renameAll_get f segs i (by simpa using h1)]
  rfl

/-! ### Decidability of `ThesWF` (for examples) -/

/-- `ThesWF t` is the conjunction of its five fields (the holes: read off the first function). -/
instance decThesWF (t : Thes) : Decidable (ThesWF t) :=
  decidable_of_iff' (_ ∧ _ ∧ _ ∧ _ ∧ _)
    ⟨fun h => ⟨h.sorted, h.codesAsc, h.idKnown, h.idsDistinct, h.synsDistinct⟩,
     fun h => ⟨h.1, h.2.1, h.2.2.1, h.2.2.2.1, h.2.2.2.2⟩⟩

/-- "If present, well formed" (decidable form of one `SegThesWF` instance). -/
def OptThesWF (o : Option Thes) : Prop := ∀ t, o = some t → ThesWF t

instance decOptThesWF : (o : Option Thes) → Decidable (OptThesWF o)
  | none => isTrue (fun _ h => by cases h)
  | some t => decidable_of_iff (ThesWF t) ⟨fun h _ e => by cases e; exact h, fun h => h t rfl⟩

end Zap.SynL
