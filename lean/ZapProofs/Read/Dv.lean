/-
  The doc-value visit-state machine (`Seg.visitDocValues`) split into its two loops, the reader
  invariant, and what a visit returns on any segment (C03).
-/
import ZapModel.Query
import ZapProofs.Base.List

namespace Zap
namespace Dv

def dataOf (s : Seg) (fid : Nat) : List (Nat × List Bytes) :=
  ((s.fields.getD fid default).dv).getD []

def recorded (data : List (Nat × List Bytes)) (doc : Nat) : List Bytes :=
  ((data.find? (·.1 = doc)).map (·.2)).getD []

/-- What one occurrence of name `n` in the field list contributes to a visit of `doc`. -/
def fieldOut (s : Seg) (doc : Nat) (n : Name) : List (Name × Bytes) :=
  match s.fieldId? n with
  | none => []
  | some fid =>
    match (s.fields.getD fid default).dv with
    | none => []
    | some data => (recorded data doc).map (fun t => (n, t))

/-- First loop of `VisitDocValues`: one step of creating the readers. -/
def freshStep (s : Seg) (acc : List DvReader) (n : Name) : List DvReader :=
  match s.fieldId? n with
  | none => acc
  | some fid =>
    match (s.fields.getD fid default).dv with
    | none => acc
    | some _ =>
      upsert DvReader.fid fid (fun r => { r with curChunk := none, cache := [] })
        { fid := fid, curChunk := none, cache := [] } acc

def freshReaders (s : Seg) (fields : List Name) : List DvReader := fields.foldl (freshStep s) []

def loadFor (s : Seg) (cs doc fid : Nat) (r : DvReader) : DvReader :=
  if r.curChunk ≠ some (doc / cs) then
    { r with curChunk := some (doc / cs), cache := dvChunk (dataOf s fid) cs (doc / cs) }
  else r

/-- Second loop of `VisitDocValues`: one step of visiting. -/
def visitStep (s : Seg) (cs doc : Nat) (acc : List DvReader × List (Name × Bytes)) (n : Name) :
    List DvReader × List (Name × Bytes) :=
  match s.fieldId? n with
  | none => acc
  | some fid =>
    match acc.1.find? (·.fid = fid) with
    | none => acc
    | some r =>
      let terms := match (loadFor s cs doc fid r).cache.find? (·.1 = doc) with
        | none => []
        | some p => p.2
      (acc.1.map (fun x => if x.fid = fid then loadFor s cs doc fid r else x),
        acc.2 ++ terms.map (fun t => (n, t)))

/-- The state a visit starts from after the segment-identity check. -/
def enter (tag : Nat) : Option DvState → DvState
  | none => DvState.fresh
  | some st => if st.segTag ≠ some tag then { segTag := some tag, readers := none } else st

def readersOf (s : Seg) (fields : List Name) (st0 : DvState) : List DvReader :=
  match st0.readers with
  | some rs => rs
  | none => freshReaders s fields

theorem visit_eq (s : Seg) (tag cs : Nat) (st : Option DvState) (fields : List Name) (doc : Nat) :
    s.visitDocValues tag cs st fields doc =
      ({ enter tag st with
          readers := some (fields.foldl (visitStep s cs doc) (readersOf s fields (enter tag st), [])).1 },
       (fields.foldl (visitStep s cs doc) (readersOf s fields (enter tag st), [])).2) := by
  cases st <;> rfl

def Valid (s : Seg) (cs : Nat) (rs : List DvReader) : Prop :=
  ∀ r ∈ rs, ∀ c, r.curChunk = some c → r.cache = dvChunk (dataOf s r.fid) cs c

/-- `fids` (the field ids of the readers) are exactly those of the listed fields that are known and
    have doc values. -/
def Covers (s : Seg) (fields : List Name) (fids : List Nat) : Prop :=
  ∀ n ∈ fields, ∀ fid, s.fieldId? n = some fid →
    (fid ∈ fids ↔ ((s.fields.getD fid default).dv).isSome = true)

theorem freshStep_spec (s : Seg) (acc : List DvReader) (n : Name)
    (hnone : ∀ r ∈ acc, r.curChunk = none) :
    (∀ r ∈ freshStep s acc n, r.curChunk = none) ∧
    (∀ fid, fid ∈ (freshStep s acc n).map (·.fid) ↔
      fid ∈ acc.map (·.fid) ∨ (s.fieldId? n = some fid ∧ ((s.fields.getD fid default).dv).isSome = true)) := by
  unfold freshStep
  cases hf : s.fieldId? n with
  | none => exact ⟨hnone, fun _ => (or_iff_left fun h => nomatch h.1).symm⟩
  | some fid =>
    dsimp only
    cases hdv : (s.fields.getD fid default).dv with
    | none =>
      refine ⟨hnone, fun fid' => ⟨Or.inl, ?_⟩⟩
      rintro (h | ⟨h, h'⟩)
      · exact h
      · cases h
        rw [hdv] at h'
        cases h'
    | some data =>
      dsimp only
      refine ⟨forall_mem_upsert hnone (fun _ _ => rfl) rfl, fun fid' => ?_⟩
      rw [map_key_upsert (key := DvReader.fid) (g := fun r => { r with curChunk := none, cache := [] })
        (new := ⟨fid, none, []⟩) (fun _ => rfl) rfl, Option.some.injEq]
      split
      · next hm => exact ⟨Or.inl, fun h => h.elim id (fun h => h.1 ▸ hm)⟩
      · rw [List.mem_append, List.mem_singleton]
        exact or_congr_right ⟨fun h => ⟨h.symm, h ▸ by rw [hdv]; rfl⟩, fun h => h.1.symm⟩

theorem freshReaders_spec (s : Seg) (fields : List Name) :
    (∀ r ∈ freshReaders s fields, r.curChunk = none) ∧
    ∀ fid, fid ∈ (freshReaders s fields).map (·.fid) ↔
      ∃ n ∈ fields, s.fieldId? n = some fid ∧ ((s.fields.getD fid default).dv).isSome = true := by
  unfold freshReaders
  induction fields using List.rev_induction with
  | nil => exact ⟨fun _ h => (nomatch h), fun _ => by simp⟩
  | snoc l n ih =>
    rw [List.foldl_append, List.foldl_cons, List.foldl_nil]
    obtain ⟨h1, h2⟩ := freshStep_spec s _ n ih.1
    refine ⟨h1, fun fid => ?_⟩
    rw [h2, ih.2]
    simp only [List.mem_append, List.mem_singleton, or_and_right, exists_or, exists_eq_left]

theorem freshReaders_inv (s : Seg) (cs : Nat) (fields : List Name) :
    Valid s cs (freshReaders s fields) ∧ Covers s fields ((freshReaders s fields).map (·.fid)) := by
  obtain ⟨h1, h2⟩ := freshReaders_spec s fields
  refine ⟨fun r hr c hc => ?_, fun n hn fid hf => ?_⟩
  · rw [h1 r hr] at hc
    cases hc
  · rw [h2]
    exact ⟨fun ⟨_, _, _, h⟩ => h, fun h => ⟨n, hn, hf, h⟩⟩

theorem find_dvChunk (data : List (Nat × List Bytes)) (cs doc : Nat) :
    (dvChunk data cs (doc / cs)).find? (·.1 = doc) = data.find? (·.1 = doc) := by
  unfold dvChunk
  rw [List.find?_filter]
  congr 1
  funext p
  by_cases h : p.1 = doc <;> simp [h]

theorem loadFor_fid (s : Seg) (cs doc fid : Nat) (r : DvReader) :
    (loadFor s cs doc fid r).fid = r.fid := by
  unfold loadFor
  split <;> rfl

theorem loadFor_curChunk (s : Seg) (cs doc fid : Nat) (r : DvReader) :
    (loadFor s cs doc fid r).curChunk = some (doc / cs) := by
  unfold loadFor
  split
  · rfl
  · next h => exact Classical.not_not.mp h

theorem loadFor_cache {s : Seg} {cs fid : Nat} {r : DvReader} (doc : Nat)
    (h : ∀ c, r.curChunk = some c → r.cache = dvChunk (dataOf s fid) cs c) :
    ∀ c, (loadFor s cs doc fid r).curChunk = some c →
      (loadFor s cs doc fid r).cache = dvChunk (dataOf s fid) cs c := by
  unfold loadFor
  split
  · intro c hc
    rw [← Option.some.inj hc]
  · exact h

theorem visitStep_spec (s : Seg) (cs doc : Nat) (rs : List DvReader) (out : List (Name × Bytes)) (n : Name)
    (hv : Valid s cs rs)
    (hc : ∀ fid, s.fieldId? n = some fid →
      (fid ∈ rs.map (·.fid) ↔ ((s.fields.getD fid default).dv).isSome = true)) :
    Valid s cs (visitStep s cs doc (rs, out) n).1 ∧
    (visitStep s cs doc (rs, out) n).1.map (·.fid) = rs.map (·.fid) ∧
    (visitStep s cs doc (rs, out) n).2 = out ++ fieldOut s doc n := by
  cases hf : s.fieldId? n with
  | none =>
    rw [show visitStep s cs doc (rs, out) n = (rs, out) by simp only [visitStep, hf]]
    exact ⟨hv, rfl, by simp only [fieldOut, hf, List.append_nil]⟩
  | some fid =>
    have hc' := hc fid hf
    cases hfind : rs.find? (·.fid = fid) with
    | none =>
      -- no reader: the field has no doc values
      have hnot : fid ∉ rs.map (·.fid) := fun hm =>
        let ⟨x, hx, e⟩ := List.mem_map.1 hm
        List.find?_eq_none.1 hfind x hx (decide_eq_true e)
      have hdv : (s.fields.getD fid default).dv = none :=
        Option.not_isSome_iff_eq_none.1 (mt hc'.2 hnot)
      rw [show visitStep s cs doc (rs, out) n = (rs, out) by simp only [visitStep, hf, hfind]]
      exact ⟨hv, rfl, by simp only [fieldOut, hf, hdv, List.append_nil]⟩
    | some r =>
      have hr : r ∈ rs := List.mem_of_find?_eq_some hfind
      have hrf : r.fid = fid := by simpa using List.find?_some hfind
      obtain ⟨data, hdata⟩ := Option.isSome_iff_exists.mp (hc'.1 (List.mem_map.mpr ⟨r, hr, hrf⟩))
      have hload := loadFor_cache doc (hrf ▸ hv r hr)
      simp only [visitStep, hf, hfind]
      refine ⟨?_, ?_, ?_⟩
      · intro x hx c hcur
        obtain ⟨y, hy, rfl⟩ := List.mem_map.mp hx
        by_cases hyf : y.fid = fid
        · simp only [hyf, if_true] at hcur ⊢
          rw [loadFor_fid, hrf]
          exact hload c hcur
        · simp only [hyf, if_false] at hcur ⊢
          exact hv y hy c hcur
      · simp only [List.map_map]
        apply List.map_congr_left
        intro y _
        by_cases hyf : y.fid = fid <;> simp [hyf, loadFor_fid, hrf]
      · simp only [hload _ (loadFor_curChunk s cs doc fid r), find_dvChunk, recorded, fieldOut, hf,
          dataOf, hdata, Option.getD_some]
        congr 2
        cases data.find? (·.1 = doc) <;> rfl

theorem foldl_visitStep_spec (s : Seg) (cs doc : Nat) : ∀ (fs : List Name) (rs : List DvReader)
    (out : List (Name × Bytes)), Valid s cs rs → Covers s fs (rs.map (·.fid)) →
    Valid s cs (fs.foldl (visitStep s cs doc) (rs, out)).1 ∧
    (fs.foldl (visitStep s cs doc) (rs, out)).1.map (·.fid) = rs.map (·.fid) ∧
    (fs.foldl (visitStep s cs doc) (rs, out)).2 = out ++ fs.flatMap (fieldOut s doc)
  | [], rs, out, hv, _ => ⟨hv, rfl, by simp⟩
  | n :: fs, rs, out, hv, hc => by
    obtain ⟨v1, f1, o1⟩ := visitStep_spec s cs doc rs out n hv (fun fid hf => hc n (by simp) fid hf)
    have hc' : Covers s fs ((visitStep s cs doc (rs, out) n).1.map (·.fid)) := by
      rw [f1]; exact fun m hm => hc m (List.mem_cons_of_mem _ hm)
    have := foldl_visitStep_spec s cs doc fs (visitStep s cs doc (rs, out) n).1
      (visitStep s cs doc (rs, out) n).2 v1 hc'
    obtain ⟨v2, f2, o2⟩ := this
    rw [List.foldl_cons]
    refine ⟨v2, f2.trans f1, ?_⟩
    rw [o2, o1]; simp

/-- `segOf`: which segment a tag stands for, see `Reach`. -/
def Inv (segOf : Nat → Seg) (cs : Nat) (fields : List Name) : Option DvState → Prop
  | none => True
  | some st => ∀ tag rs, st.segTag = some tag → st.readers = some rs →
      Valid (segOf tag) cs rs ∧ Covers (segOf tag) fields (rs.map (·.fid))

theorem enter_ne (tag : Nat) (st : DvState) (h : st.segTag ≠ some tag) :
    enter tag (some st) = { segTag := some tag, readers := none } := by
  simp only [enter, if_pos h]

theorem enter_eq (tag : Nat) (st : DvState) (h : st.segTag = some tag) : enter tag (some st) = st := by
  simp [enter, h]

theorem readersOf_enter (segOf : Nat → Seg) (cs : Nat) (fields : List Name) (st : Option DvState)
    (hinv : Inv segOf cs fields st) (tag : Nat) :
    Valid (segOf tag) cs (readersOf (segOf tag) fields (enter tag st)) ∧
    Covers (segOf tag) fields ((readersOf (segOf tag) fields (enter tag st)).map (·.fid)) := by
  have hfresh := freshReaders_inv (segOf tag) cs fields
  cases st with
  | none => exact hfresh
  | some st =>
    by_cases htag : st.segTag ≠ some tag
    · rw [enter_ne tag st htag]; exact hfresh
    · have htag' : st.segTag = some tag := by simpa using htag
      rw [enter_eq tag st htag']
      unfold readersOf
      cases hrs : st.readers with
      | none => exact hfresh
      | some rs => exact hinv tag rs htag' hrs

theorem enter_segTag (tag : Nat) (st : Option DvState) (t : Nat) (h : (enter tag st).segTag = some t) : t = tag := by
  cases st with
  | none => simp [enter, DvState.fresh] at h
  | some st =>
    by_cases htag : st.segTag ≠ some tag
    · rw [enter_ne tag st htag] at h; simp at h; exact h.symm
    · have htag' : st.segTag = some tag := by simpa using htag
      rw [enter_eq tag st htag', htag'] at h; simp at h; exact h.symm

theorem visit_out (segOf : Nat → Seg) (cs : Nat) (fields : List Name) (st : Option DvState)
    (hinv : Inv segOf cs fields st) (tag doc : Nat) :
    ((segOf tag).visitDocValues tag cs st fields doc).2 = fields.flatMap (fieldOut (segOf tag) doc) := by
  obtain ⟨hv, hc⟩ := readersOf_enter segOf cs fields st hinv tag
  rw [visit_eq]
  simpa using (foldl_visitStep_spec (segOf tag) cs doc fields _ [] hv hc).2.2

theorem visit_inv (segOf : Nat → Seg) (cs : Nat) (fields : List Name) (st : Option DvState)
    (hinv : Inv segOf cs fields st) (tag doc : Nat) :
    Inv segOf cs fields (some ((segOf tag).visitDocValues tag cs st fields doc).1) := by
  obtain ⟨hv, hc⟩ := readersOf_enter segOf cs fields st hinv tag
  obtain ⟨v, f, _⟩ := foldl_visitStep_spec (segOf tag) cs doc fields _ [] hv hc
  rw [visit_eq]
  intro t rs ht hrs
  simp only at ht hrs
  have := enter_segTag tag st t ht
  subst this
  simp only [Option.some.injEq] at hrs
  subst hrs
  exact ⟨v, by rw [f]; exact hc⟩

/-- Visit states that can arise: the empty state, and whatever a visit returns
    when started from a state that can arise.  All visits of the history use the
    same field list and chunk size; they may be on any segments, in any document
    order, with repeats.  `segOf` says which segment a tag (Go: the segment
    pointer) stands for: a visit tagged `tag` is a visit on `segOf tag`, i.e.
    equal tags mean the same segment. -/
inductive Reach (segOf : Nat → Seg) (cs : Nat) (fields : List Name) : Option DvState → Prop
  | init : Reach segOf cs fields none
  | visit {st : Option DvState} (tag doc : Nat) : Reach segOf cs fields st →
      Reach segOf cs fields (some ((segOf tag).visitDocValues tag cs st fields doc).1)

theorem Reach.inv {segOf : Nat → Seg} {cs : Nat} {fields : List Name} {st : Option DvState}
    (h : Reach segOf cs fields st) : Inv segOf cs fields st := by
  induction h with
  | init => trivial
  | visit tag doc _ ih => exact visit_inv segOf cs fields _ ih tag doc

def runVisits (segOf : Nat → Seg) (cs : Nat) (fields : List Name) :
    Option DvState → List (Nat × Nat) → List (List (Name × Bytes))
  | _, [] => []
  | st, (tag, doc) :: rest =>
    ((segOf tag).visitDocValues tag cs st fields doc).2 ::
      runVisits segOf cs fields (some ((segOf tag).visitDocValues tag cs st fields doc).1) rest

theorem runVisits_eq (segOf : Nat → Seg) (cs : Nat) (fields : List Name) :
    ∀ (visits : List (Nat × Nat)) (st : Option DvState), Inv segOf cs fields st →
      runVisits segOf cs fields st visits =
        visits.map (fun p => fields.flatMap (fieldOut (segOf p.1) p.2))
  | [], _, _ => rfl
  | (tag, doc) :: rest, st, h => by
    rw [runVisits, visit_out segOf cs fields st h tag doc,
      runVisits_eq segOf cs fields rest _ (visit_inv segOf cs fields st h tag doc)]
    rfl

/-- `fieldOut` goes through the field id; the record at that index is the first one carrying
    the name. -/
theorem fieldOut_eq_find (s : Seg) (doc : Nat) (n : Name) :
    fieldOut s doc n =
      match s.fields.find? (·.name = n) with
      | none => []
      | some f =>
        match f.dv with
        | none => []
        | some data => (recorded data doc).map (fun t => (n, t)) := by
  unfold fieldOut Seg.fieldId?
  rw [List.find?_eq_bind_findIdx?_getElem?]
  cases hf : s.fields.findIdx? (·.name = n) with
  | none => rfl
  | some fid =>
    obtain ⟨hlt, _⟩ := List.findIdx?_eq_some_iff_getElem.1 hf
    rw [Option.bind_some, List.getElem?_eq_getElem hlt]
    dsimp only
    rw [← List.getElem_eq_getD (h := hlt) default]

end Dv
end Zap
