/-
  ZapProofs.Base.List: facts about core `List` that more than one region of the proof files needs
  and core Lean 4.33 does not have, or has in a less convenient form (a general fact with a single
  user stands next to that user); then, in namespace `Zap`, three things the model
  writes out by hand several times, each stated once: strict total orders by their laws
  (`StrictTotal`), ordered insertion for every such order (`insertUniq`, `insertAfter`), and
  "update the entry with key k or append one" (`upsert`) with the fold of keyed updates
  (`foldl_keyed`).  No definition of the model is mentioned here.
-/

namespace List

variable {α β κ : Type _}

/-! ### congruence on the members of the list (core has `map_congr_left`, `filter_congr`, not these) -/

theorem filterMap_congr_mem {f g : α → Option β} {l : List α} (h : ∀ x ∈ l, f x = g x) :
    l.filterMap f = l.filterMap g := by
  induction l with
  | nil => rfl
  | cons a l ih =>
    simp only [filterMap_cons, h a mem_cons_self, ih fun x hx => h x (mem_cons_of_mem _ hx)]

theorem flatMap_congr_mem {f g : α → List β} {l : List α} (h : ∀ x ∈ l, f x = g x) :
    l.flatMap f = l.flatMap g := by
  simp only [flatMap_def, map_congr_left h]

theorem foldl_congr_mem {f g : β → α → β} {l : List α} (h : ∀ b, ∀ a ∈ l, f b a = g b a) (b : β) :
    l.foldl f b = l.foldl g b := by
  induction l generalizing b with
  | nil => rfl
  | cons a l ih =>
    simp only [foldl_cons, h b a mem_cons_self]
    exact ih (fun b x hx => h b x (mem_cons_of_mem _ hx)) _

/-- Core's `foldlRecOn` with the invariant as the first explicit argument, as the uses give it. -/
theorem foldl_induction {f : β → α → β} (P : β → Prop) {l : List α} {b : β} (h0 : P b)
    (hstep : ∀ b, ∀ a ∈ l, P b → P (f b a)) : P (l.foldl f b) :=
  foldlRecOn l f h0 fun b hb a ha => hstep b a ha hb

theorem rev_induction {P : List α → Prop} (nil : P []) (snoc : ∀ l a, P l → P (l ++ [a])) :
    ∀ l, P l := by
  intro l
  rw [← reverse_reverse l]
  induction l.reverse with
  | nil => exact nil
  | cons a l ih => rw [reverse_cons]; exact snoc _ _ ih

/-! ### `Nodup` of a key projection: the projection is injective on the list -/

theorem inj_on_of_nodup_map {f : α → β} {l : List α} (h : (l.map f).Nodup) {a b : α}
    (ha : a ∈ l) (hb : b ∈ l) (e : f a = f b) : a = b := by
  induction l with
  | nil => cases ha
  | cons x l ih =>
    rw [map_cons, nodup_cons] at h
    rcases mem_cons.mp ha with rfl | ha' <;> rcases mem_cons.mp hb with rfl | hb'
    · rfl
    · exact absurd (e ▸ mem_map_of_mem hb' : f a ∈ l.map f) h.1
    · exact absurd (e ▸ mem_map_of_mem ha' : f b ∈ l.map f) h.1
    · exact ih h.2 ha' hb'

theorem Nodup.map_on {f : α → β} {l : List α} (hl : l.Nodup)
    (h : ∀ a ∈ l, ∀ b ∈ l, f a = f b → a = b) : (l.map f).Nodup := by
  induction l with
  | nil => exact nodup_nil
  | cons x l ih =>
    rw [nodup_cons] at hl
    rw [map_cons, nodup_cons]
    refine ⟨?_, ih hl.2 fun a ha b hb => h a (mem_cons_of_mem _ ha) b (mem_cons_of_mem _ hb)⟩
    intro hx
    obtain ⟨y, hy, e⟩ := mem_map.mp hx
    exact hl.1 (h x mem_cons_self y (mem_cons_of_mem _ hy) e.symm ▸ hy)

theorem filter_key_eq_find? [DecidableEq κ] {key : α → κ} {l : List α} (h : (l.map key).Nodup)
    (k : κ) : l.filter (fun x => key x = k) = (l.find? (fun x => key x = k)).toList := by
  induction l with
  | nil => rfl
  | cons x l ih =>
    rw [map_cons, nodup_cons] at h
    by_cases e : key x = k
    · have hnone : l.filter (fun x => decide (key x = k)) = [] :=
        filter_eq_nil_iff.2 fun y hy => by
          simpa using fun e2 : key y = k => h.1 (e.trans e2.symm ▸ mem_map_of_mem hy)
      simp [e, hnone]
    · simp [e, ih h.2]

theorem find?_key_eq_some [DecidableEq κ] {key : α → κ} {l : List α} (h : (l.map key).Nodup)
    {x : α} (hx : x ∈ l) : l.find? (fun y => key y = key x) = some x := by
  have hm : x ∈ l.filter (fun y => key y = key x) := mem_filter.2 ⟨hx, decide_eq_true rfl⟩
  rw [filter_key_eq_find? h] at hm
  exact Option.mem_toList.1 hm

/-- The `Decidable (k ∈ ks)` instance is an argument: for `κ := List Nat` the instance found at a use
is not the one `DecidableEq κ` gives here. -/
theorem find?_map_key [DecidableEq κ] {key : β → κ} {F : κ → β} (hF : ∀ k, key (F k) = k) (k : κ)
    (ks : List κ) [Decidable (k ∈ ks)] :
    (ks.map F).find? (fun x => key x = k) = if k ∈ ks then some (F k) else none := by
  have hp : ((fun x => decide (key x = k)) ∘ F) = fun k' => decide (k' = k) :=
    funext fun k' => by rw [Function.comp, hF]
  rw [find?_map, hp]
  cases h : ks.find? (fun k' => decide (k' = k)) with
  | none =>
    rw [if_neg fun hk => by simpa using find?_eq_none.1 h k hk]
    rfl
  | some y =>
    have hy : y = k := by simpa using find?_some h
    rw [if_pos (hy ▸ mem_of_find?_eq_some h), hy]
    rfl

/-! ### `eraseDups` (core has `mem_eraseDups`, `eraseDups_cons`, `eraseDups_append` only) -/

section eraseDups
variable [BEq α] [LawfulBEq α]

theorem nodup_eraseDups : ∀ l : List α, l.eraseDups.Nodup
  | [] => nodup_nil
  | a :: t => by
    rw [eraseDups_cons, nodup_cons]
    refine ⟨fun hmem => ?_, nodup_eraseDups _⟩
    rw [mem_eraseDups, mem_filter] at hmem
    simp at hmem
termination_by l => l.length
decreasing_by exact Nat.lt_succ_of_le (length_filter_le _ _)

theorem length_eraseDups_le (l : List α) : l.eraseDups.length ≤ l.length :=
  (nodup_eraseDups l).length_le_of_subset fun _ h => mem_eraseDups.1 h

theorem Nodup.eraseDups {l : List α} (h : l.Nodup) : l.eraseDups = l := by
  induction l with
  | nil => rfl
  | cons a l ih =>
    rw [nodup_cons] at h
    rw [eraseDups_cons, filter_eq_self.mpr, ih h.2]
    intro b hb
    simpa using fun e : b = a => h.1 (e ▸ hb)

end eraseDups

/-! ### `Pairwise`, `sum`, `getD`, `Nodup`, members of `l ++ [a]` -/

theorem pairwise_cons_cons_of_trans {R : α → α → Prop}
    (trans : ∀ {a b c}, R a b → R b c → R a c) {a b : α} {l : List α} :
    (a :: b :: l).Pairwise R ↔ R a b ∧ (b :: l).Pairwise R := by
  rw [pairwise_cons]
  refine and_congr_left fun hp => ⟨fun h => h b mem_cons_self, fun hab c hc => ?_⟩
  rcases mem_cons.mp hc with rfl | hc
  · exact hab
  · exact trans hab (rel_of_pairwise_cons hp hc)

theorem Pairwise.eq_of_mem_iff {R : α → α → Prop} (asymm : ∀ a b, R a b → R b a → False)
    {l₁ l₂ : List α} (h₁ : l₁.Pairwise R) (h₂ : l₂.Pairwise R) (h : ∀ x, x ∈ l₁ ↔ x ∈ l₂) :
    l₁ = l₂ := by
  have nd : ∀ {l : List α}, l.Pairwise R → l.Nodup := fun hl =>
    nodup_iff_pairwise_ne.mpr (hl.imp fun {a b} (hab : R a b) (e : a = b) => asymm b b (e ▸ hab) (e ▸ hab))
  exact ((perm_ext_iff_of_nodup (nd h₁) (nd h₂)).mpr h).eq_of_pairwise
    (fun a b _ _ hab hba => (asymm a b hab hba).elim) h₁ h₂

theorem sum_le_of_sublist {l₁ l₂ : List Nat} (h : l₁.Sublist l₂) : l₁.sum ≤ l₂.sum := by
  induction h with
  | slnil => exact Nat.le_refl _
  | cons a _ ih =>
    rw [sum_cons]
    exact Nat.le_trans ih (Nat.le_add_left _ _)
  | cons_cons a _ ih =>
    rw [sum_cons, sum_cons]
    exact Nat.add_le_add_left ih a

theorem getD_map_const (l : List α) (d : β) (i : Nat) : (l.map fun _ => d).getD i d = d := by
  rw [getD_eq_getElem?_getD, getElem?_map]
  cases l[i]? <;> rfl

theorem getD_map_range (f : Nat → β) {n d : Nat} (b : β) (h : d < n) :
    ((range n).map f).getD d b = f d := by
  simp [getD_eq_getElem?_getD, h]

theorem getD_set (l : List α) (k i : Nat) (v d : α) :
    (l.set k v).getD i d = if i = k ∧ k < l.length then v else l.getD i d := by
  simp only [getD_eq_getElem?_getD, getElem?_set]
  by_cases h : k = i
  · subst h
    by_cases hk : k < l.length <;> simp [hk]
  · simp [h, Ne.symm h]

theorem getD_modify (l : List α) (f : α → α) (i j : Nat) (d : α) :
    (l.modify i f).getD j d = if i = j ∧ j < l.length then f (l.getD j d) else l.getD j d := by
  simp only [getD_eq_getElem?_getD, getElem?_modify]
  by_cases hj : j < l.length
  · by_cases h : i = j <;> simp [h, hj]
  · simp [hj]

theorem Nodup.concat {l : List α} {a : α} (h : l.Nodup) (ha : a ∉ l) : (l ++ [a]).Nodup :=
  nodup_append.2 ⟨h, pairwise_singleton _ a, fun _ hx _ hb e => ha (mem_singleton.1 hb ▸ e ▸ hx)⟩

theorem forall_mem_push {p : α → Prop} {l : List α} {a : α} (hl : ∀ x ∈ l, p x) (ha : p a) :
    ∀ x ∈ l ++ [a], p x :=
  forall_mem_append.2 ⟨hl, forall_mem_singleton.2 ha⟩

/-! ### "append unless already there" (`getOrDefine` on field names, the dedup of `Seg.docNumbers`) -/

section addNew
variable [BEq α] [LawfulBEq α]

theorem mem_addNew {l : List α} {x y : α} :
    y ∈ (if l.contains x then l else l ++ [x]) ↔ y ∈ l ∨ y = x := by
  split
  · next h => exact ⟨Or.inl, fun h' => h'.elim id (· ▸ contains_iff_mem.1 h)⟩
  · simp

theorem foldl_addNew_spec (xs init : List α) :
    init <+: xs.foldl (fun l x => if l.contains x then l else l ++ [x]) init ∧
    (init.Nodup → (xs.foldl (fun l x => if l.contains x then l else l ++ [x]) init).Nodup) ∧
    ∀ y, y ∈ xs.foldl (fun l x => if l.contains x then l else l ++ [x]) init ↔ y ∈ init ∨ y ∈ xs := by
  induction xs generalizing init with
  | nil => exact ⟨prefix_refl _, id, fun _ => (or_iff_left not_mem_nil).symm⟩
  | cons x xs ih =>
    obtain ⟨h1, h2, h3⟩ := ih (if init.contains x then init else init ++ [x])
    refine ⟨IsPrefix.trans ?_ h1, fun h => h2 ?_, fun y => ?_⟩
    · split
      · exact prefix_refl _
      · exact prefix_append _ _
    · split
      · exact h
      · next hc => exact h.concat (by simpa using hc)
    · rw [foldl_cons, h3, mem_addNew, mem_cons, or_assoc]

end addNew

theorem getElem?_concat_eq_some {l : List α} {a x : α} {i : Nat} :
    (l ++ [a])[i]? = some x ↔ l[i]? = some x ∨ (i = l.length ∧ a = x) := by
  rcases Nat.lt_trichotomy i l.length with h | h | h
  · rw [getElem?_append_left h]
    exact ⟨Or.inl, fun h' => h'.resolve_right fun e => Nat.ne_of_lt h e.1⟩
  · subst h
    rw [getElem?_concat_length, getElem?_eq_none (Nat.le_refl _)]
    simp
  · rw [getElem?_eq_none (by rw [length_append]; exact h), getElem?_eq_none (Nat.le_of_lt h)]
    simp [Nat.ne_of_gt h]

theorem exists_mem_zipIdx {l : List α} {a : α} (h : a ∈ l) : ∃ i, (a, i) ∈ l.zipIdx := by
  obtain ⟨i, hi, rfl⟩ := getElem_of_mem h
  exact ⟨i, mem_zipIdx_iff_getElem?.mpr (getElem?_eq_getElem hi)⟩

theorem pairwise_snd_zipIdx (l : List α) (k : Nat) :
    (l.zipIdx k).Pairwise (fun p q => p.2 < q.2) := by
  rw [← pairwise_map (f := Prod.snd) (R := (· < ·)), zipIdx_map_snd]
  exact pairwise_lt_range'

theorem filterMap_zipIdx_asc (f : Nat → α → Option β) (num : β → Nat)
    (hnum : ∀ i a b, f i a = some b → num b = i) (l : List α) (k : Nat) :
    (((l.zipIdx k).filterMap fun p => f p.2 p.1).map num).Pairwise (· < ·) := by
  rw [pairwise_map]
  refine (pairwise_snd_zipIdx l k).filterMap _ fun p q hpq b hb b' hb' => ?_
  rw [hnum _ _ _ hb, hnum _ _ _ hb']
  exact hpq

/-! ### what `dropWhile` returns (core has `dropWhile_filter`, `dropWhile_map`, no inversion) -/

theorem dropWhile_eq_nil {q : α → Bool} : ∀ {l : List α}, l.dropWhile q = [] ↔ ∀ x ∈ l, q x = true
  | [] => by simp
  | a :: l => by
    by_cases ha : q a = true
    · rw [dropWhile_cons_of_pos ha, dropWhile_eq_nil, forall_mem_cons, and_iff_right ha]
    · rw [dropWhile_cons_of_neg ha]
      exact ⟨nofun, fun h => absurd (h a mem_cons_self) ha⟩

theorem dropWhile_eq_cons {q : α → Bool} {l : List α} {e : α} {r : List α}
    (h : l.dropWhile q = e :: r) :
    ∃ sk, l = sk ++ e :: r ∧ (∀ x ∈ sk, q x = true) ∧ q e = false := by
  refine ⟨l.takeWhile q, ?_, all_eq_true.mp all_takeWhile, ?_⟩
  · rw [← h, takeWhile_append_dropWhile]
  · have := head_dropWhile_not q (l := l) (by rw [h]; exact cons_ne_nil _ _)
    simpa only [h, head_cons] using this

theorem filter_dropWhile_eq_cons {keep q : α → Bool} {l : List α} {e : α} {lv : List α}
    (h : (l.filter keep).dropWhile q = e :: lv) :
    ∃ sk rem, l = sk ++ e :: rem ∧ lv = rem.filter keep ∧ q e = false ∧
      ∀ x ∈ sk, keep x = true → q x = true := by
  rw [dropWhile_filter] at h
  cases hD : l.dropWhile (fun a => !keep a || q a) with
  | nil => rw [hD] at h; cases h
  | cons d rem =>
    obtain ⟨sk, h1, h2, h3⟩ := dropWhile_eq_cons hD
    have hk : keep d = true ∧ q d = false := by simpa using h3
    rw [hD, filter_cons_of_pos hk.1] at h
    cases h
    exact ⟨sk, rem, h1, rfl, hk.2, fun x hx hkx => by simpa [hkx] using h2 x hx⟩

end List

namespace Zap

/-! ### strict total orders, given by their laws (no class: the model's relations are `Bool` tests) -/

structure StrictTotal {α : Type} (R : α → α → Prop) : Prop where
  irrefl : ∀ a, ¬R a a
  trans : ∀ {a b c}, R a b → R b c → R a c
  tri : ∀ a b, R a b ∨ a = b ∨ R b a

theorem StrictTotal.asymm {α : Type} {R : α → α → Prop} (o : StrictTotal R) {a b : α} (h : R a b) :
    ¬R b a := fun h' => o.irrefl a (o.trans h h')

theorem strictTotal_natLt : StrictTotal (fun a b : Nat => a < b) :=
  ⟨Nat.lt_irrefl, Nat.lt_trans, Nat.lt_trichotomy⟩

theorem StrictTotal.lex {α β : Type} {R : α → α → Prop} {S : β → β → Prop} (oR : StrictTotal R)
    (oS : StrictTotal S) : StrictTotal (fun a b : α × β => R a.1 b.1 ∨ (a.1 = b.1 ∧ S a.2 b.2)) where
  irrefl a h := h.elim (oR.irrefl _) fun h => oS.irrefl _ h.2
  trans := by
    rintro a b c (h1 | ⟨e1, h1⟩) (h2 | ⟨e2, h2⟩)
    · exact .inl (oR.trans h1 h2)
    · exact .inl (e2 ▸ h1)
    · exact .inl (e1 ▸ h2)
    · exact .inr ⟨e1.trans e2, oS.trans h1 h2⟩
  tri a b := by
    rcases oR.tri a.1 b.1 with h | h | h
    · exact .inl (.inl h)
    · rcases oS.tri a.2 b.2 with h' | h' | h'
      · exact .inl (.inr ⟨h, h'⟩)
      · exact .inr (.inl (Prod.ext h h'))
      · exact .inr (.inr (.inr ⟨h.symm, h'⟩))
    · exact .inr (.inr (.inl h))

/-! ### ordered insertion

The model writes its insertion sorts out by hand, one per element type.  They have two shapes;
each model function needs one agreement lemma (an induction closed by `rfl` or `simp only`) to
inherit the facts below. -/

section insertUniq
variable {α : Type} [DecidableEq α] (R : α → α → Prop) [DecidableRel R]

/-- Insert into a strictly ascending list, dropping an element that is already there
    (`insertSorted`, `insCode`, `insertCode`). -/
def insertUniq (x : α) : List α → List α
  | [] => [x]
  | y :: ys => if R x y then x :: y :: ys else if x = y then y :: ys else y :: insertUniq x ys

variable {R}

theorem mem_insertUniq {x z : α} : ∀ {l : List α}, z ∈ insertUniq R x l ↔ z = x ∨ z ∈ l
  | [] => by simp [insertUniq]
  | y :: ys => by
    unfold insertUniq
    by_cases hxy : R x y
    · rw [if_pos hxy]; exact List.mem_cons
    · rw [if_neg hxy]
      split
      · next e => subst e; simp
      · simp [mem_insertUniq (l := ys), or_left_comm]

theorem pairwise_insertUniq (o : StrictTotal R) (x : α) :
    ∀ {l : List α}, l.Pairwise R → (insertUniq R x l).Pairwise R
  | [], _ => by simp [insertUniq]
  | y :: ys, h => by
    have ⟨hy, hys⟩ := List.pairwise_cons.mp h
    unfold insertUniq
    by_cases hxy : R x y
    · rw [if_pos hxy]
      exact List.pairwise_cons.mpr ⟨fun z hz => by
        rcases List.mem_cons.mp hz with rfl | hz
        · exact hxy
        · exact o.trans hxy (hy z hz), h⟩
    · rw [if_neg hxy]
      split
      · exact h
      · next hne =>
        refine List.pairwise_cons.mpr ⟨fun z hz => ?_, pairwise_insertUniq o x hys⟩
        rcases mem_insertUniq.mp hz with rfl | hz
        · exact (o.tri z y).resolve_left hxy |>.resolve_left hne
        · exact hy z hz

theorem mem_foldr_insertUniq {z : α} {xs : List α} : z ∈ xs.foldr (insertUniq R) [] ↔ z ∈ xs := by
  induction xs with
  | nil => simp
  | cons x xs ih => simp [mem_insertUniq, ih]

theorem pairwise_foldr_insertUniq (o : StrictTotal R) (xs : List α) :
    (xs.foldr (insertUniq R) []).Pairwise R := by
  induction xs with
  | nil => exact .nil
  | cons x xs ih => exact pairwise_insertUniq o x ih

end insertUniq

section insertAfter
variable {α β : Type} {R : α → α → Bool}

/-- Insert `x` behind every leading element that `R` puts before it, keeping duplicates
    (`insertName`, `insertTerm`, `insertLhs`, `insertRes`). -/
def insertAfter (R : α → α → Bool) (x : α) : List α → List α
  | [] => [x]
  | y :: ys => if R y x then y :: insertAfter R x ys else x :: y :: ys

theorem perm_insertAfter (x : α) : ∀ l : List α, (insertAfter R x l).Perm (x :: l)
  | [] => .refl _
  | y :: ys => by
    unfold insertAfter
    split
    · exact ((perm_insertAfter x ys).cons y).trans (.swap x y ys)
    · exact .refl _

theorem mem_insertAfter {x z : α} {l : List α} : z ∈ insertAfter R x l ↔ z = x ∨ z ∈ l := by
  rw [(perm_insertAfter x l).mem_iff, List.mem_cons]

theorem map_insertAfter (key : α → β) (S : β → β → Bool) (x : α) (l : List α) :
    (insertAfter (fun y x => S (key y) (key x)) x l).map key = insertAfter S (key x) (l.map key) := by
  induction l with
  | nil => rfl
  | cons y ys ih =>
    simp only [insertAfter, List.map_cons]
    by_cases h : S (key y) (key x) = true <;> simp [h, ih]

theorem pairwise_insertAfter (o : StrictTotal (fun a b => R a b = true)) {x : α} {l : List α}
    (hp : l.Pairwise (fun a b => R a b = true)) (hx : x ∉ l) :
    (insertAfter R x l).Pairwise (fun a b => R a b = true) := by
  induction l with
  | nil => simp [insertAfter]
  | cons y ys ih =>
    have ⟨hy, hys⟩ := List.pairwise_cons.mp hp
    rw [List.mem_cons, not_or] at hx
    unfold insertAfter
    split
    · next hyx =>
      refine List.pairwise_cons.mpr ⟨fun z hz => ?_, ih hys hx.2⟩
      rcases mem_insertAfter.mp hz with rfl | hz
      · exact hyx
      · exact hy z hz
    · next hyx =>
      have hxy : R x y = true := (o.tri x y).resolve_right (not_or.mpr ⟨hx.1, hyx⟩)
      exact List.pairwise_cons.mpr ⟨fun z hz => by
        rcases List.mem_cons.mp hz with rfl | hz
        · exact hxy
        · exact o.trans hxy (hy z hz), hp⟩

/-- `asymm` and `ntrans`: a strict weak order, ties allowed (`insertRes` orders by score). -/
theorem noInversion_insertAfter (asymm : ∀ a b, R a b = true → R b a = false)
    (ntrans : ∀ a b c, R a b = false → R b c = false → R a c = false) (x : α) {l : List α}
    (hp : l.Pairwise (fun a b => R b a = false)) :
    (insertAfter R x l).Pairwise (fun a b => R b a = false) := by
  induction l with
  | nil => simp [insertAfter]
  | cons y ys ih =>
    have ⟨hy, hys⟩ := List.pairwise_cons.mp hp
    unfold insertAfter
    split
    · next hyx =>
      refine List.pairwise_cons.mpr ⟨fun z hz => ?_, ih hys⟩
      rcases mem_insertAfter.mp hz with rfl | hz
      · exact asymm _ _ hyx
      · exact hy z hz
    · next hyx =>
      refine List.pairwise_cons.mpr ⟨fun z hz => ?_, hp⟩
      rcases List.mem_cons.mp hz with rfl | hz
      · simpa using hyx
      · exact ntrans z y x (hy z hz) (by simpa using hyx)

/-! The model's sorts are `foldr` of the insertion: `sortNames`, `sortTerms`, `sortRes`, the `foldr insertLhs`
of `buildThes`. -/

theorem perm_foldr_insertAfter (xs : List α) : (xs.foldr (insertAfter R) []).Perm xs := by
  induction xs with
  | nil => exact .refl _
  | cons x xs ih => exact (perm_insertAfter x _).trans (ih.cons x)

theorem mem_foldr_insertAfter {z : α} {xs : List α} : z ∈ xs.foldr (insertAfter R) [] ↔ z ∈ xs :=
  (perm_foldr_insertAfter xs).mem_iff

theorem map_foldr_insertAfter (key : α → β) (S : β → β → Bool) (xs : List α) :
    (xs.foldr (insertAfter fun y x => S (key y) (key x)) []).map key
      = (xs.map key).foldr (insertAfter S) [] := by
  induction xs with
  | nil => rfl
  | cons x xs ih => rw [List.foldr_cons, map_insertAfter, ih, List.map_cons, List.foldr_cons]

theorem pairwise_foldr_insertAfter (o : StrictTotal (fun a b => R a b = true)) {xs : List α}
    (hnd : xs.Nodup) : (xs.foldr (insertAfter R) []).Pairwise (fun a b => R a b = true) := by
  induction xs with
  | nil => exact .nil
  | cons x xs ih =>
    have ⟨hx, hxs⟩ := List.nodup_cons.mp hnd
    exact pairwise_insertAfter o (ih hxs) fun h => hx (mem_foldr_insertAfter.mp h)

theorem noInversion_foldr_insertAfter (asymm : ∀ a b, R a b = true → R b a = false)
    (ntrans : ∀ a b c, R a b = false → R b c = false → R a c = false) (xs : List α) :
    (xs.foldr (insertAfter R) []).Pairwise (fun a b => R b a = false) := by
  induction xs with
  | nil => exact .nil
  | cons x xs ih => exact noInversion_insertAfter asymm ntrans x ih

end insertAfter

/-! ### "update the entry with key `k`, or append a new one"

The model writes this step out in `mergeTok` (token frequencies by term), `accField` (accumulators
by field name), `appendEntry` (a dictionary by term), `addCodes` (a thesaurus by LHS term) and the
reader loop of `visitDocValues` (doc-value readers by field id). -/

section upsert
variable {α K : Type} [DecidableEq K]

def upsert (key : α → K) (k : K) (g : α → α) (new : α) (acc : List α) : List α :=
  if acc.any (fun e => key e = k) then acc.map (fun e => if key e = k then g e else e)
  else acc ++ [new]

variable {key : α → K} {k : K} {g : α → α} {new : α}

theorem find?_upsert (hg : ∀ a, key (g a) = key a) (hnew : key new = k) (acc : List α) (t : K) :
    (upsert key k g new acc).find? (fun e => key e = t) =
      if k = t then some ((acc.find? (fun e => key e = t)).elim new g)
      else acc.find? (fun e => key e = t) := by
  unfold upsert
  by_cases hany : acc.any (fun e => decide (key e = k)) = true
  · -- the update keeps keys, so `find?` commutes with it
    have hkey : ((fun e => decide (key e = t)) ∘ fun e => if key e = k then g e else e) =
        fun e => decide (key e = t) := by
      funext e
      by_cases h : key e = k <;> simp [h, hg]
    rw [if_pos hany, List.find?_map, hkey]
    cases hf : acc.find? (fun e => decide (key e = t)) with
    | none =>
      by_cases hkt : k = t
      · obtain ⟨x, hx, hxk⟩ := List.any_eq_true.1 hany
        exact absurd (hkt ▸ hxk) (List.find?_eq_none.1 hf x hx)
      · rw [if_neg hkt]
        rfl
    | some e =>
      have he : key e = t := by simpa using List.find?_some hf
      by_cases hkt : k = t
      · simp [hkt, he]
      · have : ¬ key e = k := fun h => hkt (h ▸ he)
        simp [hkt, this]
  · have hnone : acc.find? (fun e => decide (key e = k)) = none :=
      List.find?_eq_none.2 fun x hx hk => hany (List.any_eq_true.2 ⟨x, hx, hk⟩)
    rw [if_neg hany, List.find?_append]
    by_cases hkt : k = t
    · subst hkt
      simp [hnone, hnew]
    · have : ¬ key new = t := fun h => hkt (hnew ▸ h)
      simp [hkt, this]

theorem map_key_upsert (hg : ∀ a, key (g a) = key a) (hnew : key new = k) (acc : List α) :
    (upsert key k g new acc).map key =
      if k ∈ acc.map key then acc.map key else acc.map key ++ [k] := by
  have hany : acc.any (fun e => decide (key e = k)) = true ↔ k ∈ acc.map key := by
    simp only [List.any_eq_true, decide_eq_true_eq, List.mem_map]
  unfold upsert
  by_cases h : acc.any (fun e => decide (key e = k)) = true
  · rw [if_pos h, if_pos (hany.1 h), List.map_map]
    apply List.map_congr_left
    intro a _
    simp only [Function.comp]
    split <;> simp [hg]
  · rw [if_neg h, if_neg (fun h' => h (hany.2 h'))]
    simp [hnew]

theorem nodup_key_upsert (hg : ∀ a, key (g a) = key a) (hnew : key new = k) {acc : List α}
    (h : (acc.map key).Nodup) : ((upsert key k g new acc).map key).Nodup := by
  rw [map_key_upsert hg hnew]
  split
  · exact h
  · next hk => exact h.concat hk

theorem forall_mem_upsert {P : α → Prop} {acc : List α} (h : ∀ a ∈ acc, P a)
    (hg : ∀ a ∈ acc, P (g a)) (hnew : P new) : ∀ a ∈ upsert key k g new acc, P a := by
  intro a ha
  by_cases hany : acc.any (fun e => decide (key e = k)) = true
  · rw [upsert, if_pos hany] at ha
    obtain ⟨e, he, rfl⟩ := List.mem_map.1 ha
    split
    · exact hg e he
    · exact h e he
  · rw [upsert, if_neg hany] at ha
    rcases List.mem_append.1 ha with ha | ha
    · exact h a ha
    · rw [List.mem_singleton.1 ha]
      exact hnew

end upsert

/-- A fold of keyed updates, read at one key (`get`), is the fold of the updates with that key:
    `hstep` says that a step with another key leaves what `get` reads alone. -/
theorem foldl_keyed {S X K V : Type} [DecidableEq K] {step : S → X → S} {key : X → K}
    {get : S → V} {k : K} {upd : V → X → V}
    (hstep : ∀ s x, get (step s x) = if key x = k then upd (get s) x else get s)
    (xs : List X) (s : S) :
    get (xs.foldl step s) = (xs.filter (fun x => key x = k)).foldl upd (get s) := by
  induction xs generalizing s with
  | nil => rfl
  | cons x xs ih =>
    rw [List.foldl_cons, ih, hstep, List.filter_cons]
    by_cases e : key x = k <;> simp [e]

end Zap
