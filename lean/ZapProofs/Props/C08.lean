/-
  C08: dictionary enumeration (`DictionaryIterator.Next` to exhaustion) returns
  exactly the accepted terms in range, each with its true cardinality, for any
  prior history of the iterator's scratch postings list.
-/
import ZapProofs.Read.Dict

namespace Zap
open DictL

/-- C08 (on the fixed tree, `clears1Hit = true`): for ANY initial scratch state. -/
theorem C08_dict (accept : Bytes → Bool) (lo hi : Option Bytes) (terms : List (Bytes × PostRep))
    (hwf : ∀ p ∈ terms, RepWF p.2) (sc : Scratch) :
    dictIterate true accept lo hi sc terms
      = (terms.filter (fun p => accept p.1 && inRange lo hi p.1)).map
          (fun p => (p.1, p.2.docs.length)) := by
  induction terms generalizing sc with
  | nil => rfl
  | cons p rest ih =>
    obtain ⟨t, r⟩ := p
    have hr : RepWF r := hwf (t, r) (List.mem_cons_self)
    have hrest : ∀ p ∈ rest, RepWF p.2 := fun p hp => hwf p (List.mem_cons_of_mem _ hp)
    unfold dictIterate
    cases hc : (accept t && inRange lo hi t)
    · rw [List.filter_cons_of_neg (by simp [hc])]
      simpa using ih hrest sc
    · rw [List.filter_cons_of_pos (by simp [hc])]
      simp only [if_true, List.map_cons]
      rw [ih hrest, count_read_true sc r hr]

/-- The pinned tree (`clears1Hit = false`, defect D1): a general entry visited
    after a 1-hit entry reports count 1. -/
theorem C08_stale_1hit_counterexample :
    ∃ terms : List (Bytes × PostRep), (∀ p ∈ terms, RepWF p.2) ∧
      dictIterate false (fun _ => true) none none {} terms
        ≠ (terms.filter (fun p => (fun _ => true) p.1 && inRange none none p.1)).map
            (fun p => (p.1, p.2.docs.length)) :=
  ⟨[([97], .oneHit 5 3),
    ([122], .general [⟨0, 1, 3, []⟩, ⟨1, 1, 3, []⟩, ⟨2, 1, 3, []⟩])],
   by decide, by decide⟩

/-- What the pinned tree reports on that dictionary: the general term `z` (3 documents) counts 1. -/
example :
    dictIterate false (fun _ => true) none none {}
      [([97], .oneHit 5 3), ([122], .general [⟨0, 1, 3, []⟩, ⟨1, 1, 3, []⟩, ⟨2, 1, 3, []⟩])]
      = [([97], 1), ([122], 1)] := by decide

/-- ... and the fixed tree on the same data, starting from a dirty scratch list. -/
example :
    dictIterate true (fun _ => true) none none { normBits1Hit := 9, docNum1Hit := 4, card := 7, hasPostings := true }
      [([97], .oneHit 5 3), ([122], .general [⟨0, 1, 3, []⟩, ⟨1, 1, 3, []⟩, ⟨2, 1, 3, []⟩])]
      = [([97], 1), ([122], 3)] := by decide

/-- `RepWF` is necessary: a 1-hit entry with norm bits 0 visited after a general
    entry reports the general entry's cardinality (2), not 1 — even on the fixed tree. -/
example :
    dictIterate true (fun _ => true) none none {}
      [([97], .general [⟨0, 1, 3, []⟩, ⟨1, 1, 3, []⟩]), ([98], .oneHit 5 0)]
      = [([97], 2), ([98], 2)]
    ∧ ([([97], PostRep.general [⟨0, 1, 3, []⟩, ⟨1, 1, 3, []⟩]), ([98], PostRep.oneHit 5 0)].map
          (fun p => (p.1, p.2.docs.length))) = [([97], 2), ([98], 1)] := by decide

/-- Range and automaton filtering, both sides computed. -/
example :
    dictIterate true (fun t => t != [98]) (some [98]) (some [100]) {}
      [([97], .oneHit 1 1), ([98], .oneHit 2 1), ([99], .general [⟨0, 1, 3, []⟩, ⟨4, 2, 3, []⟩]),
       ([99, 0], .oneHit 7 2), ([100], .oneHit 3 1)]
      = [([99], 2), ([99, 0], 1)] := by decide

/-! ### `RepWF` holds for what the merge writes -/

/-- Whatever `chooseRep` (`use1HitEncoding` + `writePostings`) selects is well-formed: a 1-hit
    value always carries non-zero norm bits, so a reader recognises it.  No hypothesis on the norms
    (before the repair of D14 this needed "norm bits non-zero in their low 31 bits"). -/
theorem C08_merge_writes_wf (parts : List (List Entry))
    (r : PostRep) (h : chooseRep parts = some r) : RepWF r := by
  rcases chooseRep_cases parts with ⟨_, h'⟩ | ⟨_, h'⟩ | ⟨e, _, _, _, _, hnz, _, h'⟩
  · rw [h'] at h; cases h
  · rw [h'] at h; cases h; trivial
  · rw [h'] at h; cases h; exact hnz

/-- Defect D14, evaluated: the choice as it was wrote a 1-hit value with norm bits 0 for a lone
    frequency-1 hit whose norm bits are 0 or 2^31 (an analysed length of 0, 2^31, 2^32, ...) - a value
    that is NOT well-formed: `Count` and the enumeration take it for an empty list, and the next merge
    drops the term.  The current choice writes the general form. -/
theorem C08_D14_counterexample :
    chooseRepD14 [[⟨4, 1, 0, []⟩]] = some (.oneHit 4 0) ∧ ¬ RepWF (.oneHit 4 0) ∧
    chooseRepD14 [[], [⟨4, 1, 2147483648, []⟩]] = some (.oneHit 4 0) ∧
    chooseRep [[⟨4, 1, 0, []⟩]] = some (.general [⟨4, 1, 0, []⟩]) ∧
    chooseRep [[], [⟨4, 1, 2147483648, []⟩]] = some (.general [⟨4, 1, 2147483648, []⟩]) := by
  refine ⟨by decide, by decide, by decide, by decide, by decide⟩

example : chooseRep [[⟨4, 1, 7, []⟩], []] = some (.general [⟨4, 1, 7, []⟩]) := by decide
example : chooseRep [[], [⟨4, 1, 7, []⟩]] = some (.oneHit 4 7) := by decide

end Zap

#print axioms Zap.C08_dict
#print axioms Zap.C08_stale_1hit_counterexample
#print axioms Zap.C08_merge_writes_wf
#print axioms Zap.C08_D14_counterexample
