/-
  ZapProofs.Codec.IntCoder: the chunked int coder (intcoder.go): its state after any run of adds,
  the round trip through `intDecodeChunks`, and reuse of a coder (`Reset`, `SetChunkSize`).
-/
import ZapProofs.Codec.Uvarint
import ZapProofs.Codec.ChunkTable

namespace Zap.Codec

theorem IntCoder.add_same {c : IntCoder} {doc : Nat} (vals : List Nat)
    (h : doc / c.chunkSize = c.curr) :
    c.add doc vals = { c with buf := c.buf ++ putUvarints vals } := by
  simp [IntCoder.add, h]

theorem IntCoder.add_next {c : IntCoder} {doc : Nat} (vals : List Nat)
    (h : doc / c.chunkSize ≠ c.curr) :
    c.add doc vals = { c.close with buf := putUvarints vals, curr := doc / c.chunkSize } := by
  simp [IntCoder.add, h]

def chunkEnc (cs : Nat) (p : List (Nat × List Nat)) (k : Nat) : Bytes :=
  putUvarints ((p.filter (fun a => a.1 / cs = k)).flatMap (·.2))

theorem chunkEnc_law (cs : Nat) : SegLaw (fun a : Nat × List Nat => a.1 / cs) (chunkEnc cs) :=
  SegLaw.of_chunkOf (fun a : Nat × List Nat => a.1 / cs)
    (fun _ l => putUvarints (l.flatMap (fun x : Nat × List Nat => x.2))) (fun _ _ => rfl)

theorem chunkEnc_snoc_eq (cs : Nat) (p : List (Nat × List Nat)) (a : Nat × List Nat) :
    chunkEnc cs (p ++ [a]) (a.1 / cs) = chunkEnc cs p (a.1 / cs) ++ putUvarints a.2 := by
  have h := chunkOf_snoc_eq (fun a : Nat × List Nat => a.1 / cs) p a
  unfold chunkOf at h
  rw [chunkEnc, h, List.flatMap_append, putUvarints_append, List.flatMap_singleton]
  rfl

structure Inv (cs n : Nat) (p : List (Nat × List Nat)) (st : IntCoder) : Prop where
  hcs : st.chunkSize = cs
  hbuf : st.buf = chunkEnc cs p st.curr
  tbl : ChunkInv (fun a => a.1 / cs) (chunkEnc cs) n p st.curr st.lens st.final

theorem Inv_new (cs maxDoc : Nat) : Inv cs (maxDoc / cs + 1) [] (IntCoder.new cs maxDoc) :=
  ⟨rfl, rfl, ChunkInv.new _⟩

theorem Inv_add {cs n : Nat} {p : List (Nat × List Nat)} {st : IntCoder} (a : Nat × List Nat)
    (inv : Inv cs n p st) (hge : ∀ b ∈ p, b.1 / cs ≤ a.1 / cs) (hlt : a.1 / cs < n) :
    Inv cs n (p ++ [a]) (st.add a.1 a.2) := by
  obtain ⟨hcs, hbuf, tbl⟩ := inv
  subst hcs
  by_cases h : a.1 / st.chunkSize = st.curr
  · rw [IntCoder.add_same a.2 h]
    refine ⟨rfl, ?_, tbl.same (chunkEnc_law _) a h⟩
    show st.buf ++ putUvarints a.2 = chunkEnc _ (p ++ [a]) st.curr
    rw [← h, chunkEnc_snoc_eq, h, hbuf]
  · have hgt : st.curr < a.1 / st.chunkSize := Nat.lt_of_le_of_ne (tbl.curr_le hge) (Ne.symm h)
    rw [IntCoder.add_next a.2 h, IntCoder.close, hbuf]
    refine ⟨rfl, ?_, tbl.next (chunkEnc_law _) a hgt hlt⟩
    show putUvarints a.2 = chunkEnc _ (p ++ [a]) (a.1 / st.chunkSize)
    rw [chunkEnc_snoc_eq, tbl.later_nil (chunkEnc_law _) _ hgt, List.nil_append]

def DocsMono (adds : List (Nat × List Nat)) : Prop :=
  adds.Pairwise (fun a b => a.1 ≤ b.1)

def segsOf (cs maxDoc : Nat) (adds : List (Nat × List Nat)) : List Bytes :=
  (List.range (maxDoc / cs + 1)).map (chunkEnc cs adds)

theorem segsOf_length (cs maxDoc : Nat) (adds : List (Nat × List Nat)) :
    (segsOf cs maxDoc adds).length = maxDoc / cs + 1 := by simp [segsOf]

theorem segsOf_getElem (cs maxDoc : Nat) (adds : List (Nat × List Nat)) (k : Nat)
    (h : k < (segsOf cs maxDoc adds).length) : (segsOf cs maxDoc adds)[k] = chunkEnc cs adds k := by
  simp [segsOf]

theorem closed_state (cs maxDoc : Nat) (adds : List (Nat × List Nat))
    (hmono : DocsMono adds) (hmax : ∀ a ∈ adds, a.1 ≤ maxDoc) :
    let st := (adds.foldl (fun c a => c.add a.1 a.2) (IntCoder.new cs maxDoc)).close
    st.lens = (segsOf cs maxDoc adds).map List.length ∧ st.final = (segsOf cs maxDoc adds).flatten := by
  have inv := foldl_chunks (I := Inv cs (maxDoc / cs + 1)) (fun p st a => Inv_add a)
    (Inv_new cs maxDoc) adds (div_mono hmono) (div_lt_succ hmax)
  simp only [IntCoder.close, inv.hbuf]
  exact inv.tbl.closed (chunkEnc_law cs)

theorem stream_shape (cs maxDoc : Nat) (adds : List (Nat × List Nat))
    (hmono : DocsMono adds) (hmax : ∀ a ∈ adds, a.1 ≤ maxDoc) :
    intCoderEncode cs maxDoc adds
      = putUvarint (maxDoc / cs + 1)
        ++ putUvarints (endOffsets ((segsOf cs maxDoc adds).map List.length))
        ++ (segsOf cs maxDoc adds).flatten := by
  obtain ⟨hlens, hfinal⟩ := closed_state cs maxDoc adds hmono hmax
  unfold intCoderEncode IntCoder.write
  rw [hlens, hfinal, List.length_map, segsOf_length]

/-- `0 < cs` is not used: in the model `d / 0 = 0`, so with `cs = 0` every document falls in
    chunk 0. -/
theorem intcoder_roundtrip (cs maxDoc : Nat) (adds : List (Nat × List Nat)) (_hcs : 0 < cs)
    (hmono : DocsMono adds) (hmax : ∀ a ∈ adds, a.1 ≤ maxDoc) :
    intDecodeChunks (intCoderEncode cs maxDoc adds)
      = some ((List.range (maxDoc / cs + 1)).map (fun c =>
          (adds.filter (fun a => a.1 / cs = c)).flatMap (·.2))) := by
  have hr := readN_putUvarints (endOffsets ((segsOf cs maxDoc adds).map List.length))
    (segsOf cs maxDoc adds).flatten
  rw [endOffsets_length, List.length_map, segsOf_length] at hr
  rw [stream_shape cs maxDoc adds hmono hmax, intDecodeChunks, List.append_assoc, uvarint_putUvarint]
  simp only [hr, Option.some.injEq]
  refine List.map_congr_left fun c hc => ?_
  have hc : c < (segsOf cs maxDoc adds).length := by rw [segsOf_length]; exact List.mem_range.mp hc
  rw [chunk_slice (segsOf cs maxDoc adds) c hc, segsOf_getElem, chunkEnc, uvarints_putUvarints]

/-! ### what a coder has written so far (for `coderFinal`, Writer/Postings) -/

theorem add_final_buf (st : IntCoder) (d : Nat) (v : List Nat) :
    (st.add d v).final ++ (st.add d v).buf = st.final ++ st.buf ++ putUvarints v := by
  unfold IntCoder.add
  by_cases h : d / st.chunkSize ≠ st.curr <;> simp [h, IntCoder.close]

theorem foldl_final_buf (adds : List (Nat × List Nat)) : ∀ st : IntCoder,
    (adds.foldl (fun c a => c.add a.1 a.2) st).final ++ (adds.foldl (fun c a => c.add a.1 a.2) st).buf
      = st.final ++ st.buf ++ putUvarints (adds.flatMap (·.2)) := by
  induction adds with
  | nil => intro st; simp [putUvarints]
  | cons a adds ih =>
    intro st
    rw [List.foldl_cons, ih, add_final_buf, List.flatMap_cons, putUvarints_append, List.append_assoc]

/-! ### reuse (`Reset`, `SetChunkSize`)

  Go keeps `chunkLens` as a slice: `SetChunkSize` re-slices it (`[:total]`) when
  the capacity suffices, so elements between `len` and `cap` survive. They are
  modelled by `spare`. `Write` turns the lengths into end offsets *in place*
  (`modifyLengthsToEndOffsets`), modelled by `writeMut`. -/

def IntCoder.reset (c : IntCoder) : IntCoder :=
  { c with final := [], curr := 0, buf := [], lens := c.lens.map (fun _ => 0) }

structure ReCoder where
  c : IntCoder
  /-- backing array of `chunkLens` beyond its length (capacity - length) -/
  spare : List Nat
  deriving DecidableEq

def ReCoder.fresh (cs maxDoc : Nat) : ReCoder := ⟨IntCoder.new cs maxDoc, []⟩

def ReCoder.add (r : ReCoder) (doc : Nat) (vals : List Nat) : ReCoder :=
  { r with c := r.c.add doc vals }

def ReCoder.close (r : ReCoder) : ReCoder := { r with c := r.c.close }

/-- the side effect of `Write` on the coder -/
def ReCoder.writeMut (r : ReCoder) : ReCoder :=
  { r with c := { r.c with lens := endOffsets r.c.lens } }

def ReCoder.reset (r : ReCoder) : ReCoder := { r with c := r.c.reset }

def ReCoder.setChunkSize (r : ReCoder) (cs maxDoc : Nat) : ReCoder :=
  let total := maxDoc / cs + 1
  if r.c.lens.length + r.spare.length < total then
    { c := { r.c with chunkSize := cs, lens := List.replicate total 0 }, spare := [] }
  else
    { c := { r.c with chunkSize := cs, lens := (r.c.lens ++ r.spare).take total },
      spare := (r.c.lens ++ r.spare).drop total }

/-- `SetChunkSize` on a coder whose slice has no spare capacity. -/
def IntCoder.setChunkSize (c : IntCoder) (cs maxDoc : Nat) : IntCoder :=
  (ReCoder.setChunkSize ⟨c, []⟩ cs maxDoc).c

/-- Operations respecting the documented protocol: `SetChunkSize` only on a
    new coder or immediately after `Reset` (`resetSet`). -/
inductive Op where
  | add (doc : Nat) (vals : List Nat)
  | close
  | write
  | reset
  | resetSet (cs maxDoc : Nat)

def ReCoder.step (r : ReCoder) : Op → ReCoder
  | .add d v => r.add d v
  | .close => r.close
  | .write => r.writeMut
  | .reset => r.reset
  | .resetSet cs m => r.reset.setChunkSize cs m

def ReCoder.run (r : ReCoder) (ops : List Op) : ReCoder := ops.foldl ReCoder.step r

def SpareZero (r : ReCoder) : Prop := ∀ x ∈ r.spare, x = 0

/-- Everything `Reset` promises, plus zeroed spare capacity. -/
structure Clean (r : ReCoder) : Prop where
  hfinal : r.c.final = []
  hcurr : r.c.curr = 0
  hbuf : r.c.buf = []
  hlens : ∀ x ∈ r.c.lens, x = 0
  hspare : SpareZero r

theorem clean_reset (r : ReCoder) (h : SpareZero r) : Clean r.reset where
  hfinal := rfl
  hcurr := rfl
  hbuf := rfl
  hlens := fun _ hx => let ⟨_, _, e⟩ := List.mem_map.mp hx; e.symm
  hspare := h

theorem setChunkSize_clean (r : ReCoder) (cs maxDoc : Nat) (h : Clean r) :
    (r.setChunkSize cs maxDoc).c = IntCoder.new cs maxDoc ∧ Clean (r.setChunkSize cs maxDoc) := by
  obtain ⟨hfinal, hcurr, hbuf, hlens, hspare⟩ := h
  have hall : ∀ x ∈ r.c.lens ++ r.spare, x = 0 := List.forall_mem_append.mpr ⟨hlens, hspare⟩
  unfold ReCoder.setChunkSize
  simp only
  split
  · refine ⟨?_, ⟨hfinal, hcurr, hbuf, ?_, ?_⟩⟩
    · simp [IntCoder.new, hfinal, hcurr, hbuf]
    · simp
    · intro x hx; simp at hx
  · rename_i hcap
    have htake : (r.c.lens ++ r.spare).take (maxDoc / cs + 1)
        = List.replicate (maxDoc / cs + 1) 0 := by
      refine List.eq_replicate_iff.mpr ⟨?_, fun x hx => hall x (List.mem_of_mem_take hx)⟩
      rw [List.length_take, List.length_append]
      exact Nat.min_eq_left (Nat.le_of_not_lt hcap)
    refine ⟨?_, ⟨hfinal, hcurr, hbuf, ?_, ?_⟩⟩
    · simp [IntCoder.new, hfinal, hcurr, hbuf, htake]
    · simp only [htake]; intro x hx; exact (List.mem_replicate.mp hx).2
    · intro x hx; exact hall x (List.mem_of_mem_drop hx)

theorem spareZero_step (r : ReCoder) (op : Op) (h : SpareZero r) : SpareZero (r.step op) := by
  cases op with
  | add d v => exact h
  | close => exact h
  | write => exact h
  | reset => exact h
  | resetSet cs m => exact (setChunkSize_clean _ cs m (clean_reset r h)).2.hspare

theorem spareZero_run (ops : List Op) (r : ReCoder) (h : SpareZero r) : SpareZero (r.run ops) :=
  List.foldl_induction SpareZero h (fun r op _ => spareZero_step r op)

theorem reset_eq_new (c : IntCoder) (maxDoc : Nat)
    (h : c.lens.length = maxDoc / c.chunkSize + 1) :
    c.reset = IntCoder.new c.chunkSize maxDoc := by
  simp [IntCoder.reset, IntCoder.new, List.map_const', h]

theorem lens_length_close (c : IntCoder) : c.close.lens.length = c.lens.length := by
  simp [IntCoder.close]

theorem IntCoder.add_shape (c : IntCoder) (d : Nat) (v : List Nat) :
    (c.add d v).chunkSize = c.chunkSize ∧ (c.add d v).lens.length = c.lens.length := by
  by_cases h : d / c.chunkSize = c.curr
  · rw [IntCoder.add_same v h]
    exact ⟨rfl, rfl⟩
  · rw [IntCoder.add_next v h]
    exact ⟨rfl, lens_length_close c⟩

theorem foldl_add_shape (adds : List (Nat × List Nat)) (c : IntCoder) :
    (adds.foldl (fun c a => c.add a.1 a.2) c).chunkSize = c.chunkSize ∧
    (adds.foldl (fun c a => c.add a.1 a.2) c).lens.length = c.lens.length :=
  List.foldl_induction
    (fun c' : IntCoder => c'.chunkSize = c.chunkSize ∧ c'.lens.length = c.lens.length) ⟨rfl, rfl⟩
    (fun c' a _ h => ⟨(c'.add_shape a.1 a.2).1.trans h.1, (c'.add_shape a.1 a.2).2.trans h.2⟩)

theorem reset_after_use (cs maxDoc : Nat) (adds : List (Nat × List Nat)) :
    (ReCoder.writeMut ⟨(adds.foldl (fun c a => c.add a.1 a.2) (IntCoder.new cs maxDoc)).close, []⟩).c.reset
      = IntCoder.new cs maxDoc := by
  obtain ⟨h1, h2⟩ := foldl_add_shape adds (IntCoder.new cs maxDoc)
  generalize adds.foldl (fun c a => c.add a.1 a.2) (IntCoder.new cs maxDoc) = st at h1 h2
  -- `Close` and `Write` keep chunk size and table size as the adds do
  rw [reset_eq_new _ maxDoc (by
    simp only [ReCoder.writeMut, IntCoder.close, endOffsets_length, List.length_set, h1, h2,
      IntCoder.new, List.length_replicate])]
  exact congrArg (IntCoder.new · maxDoc) h1

/-- Protocol violation: `SetChunkSize` on a coder that was NOT reset leaves
    stale lengths in the spare capacity; a later grow makes them visible. -/
theorem setChunkSize_without_reset_is_wrong :
    let r := (((ReCoder.fresh 1 2).add 0 [1]).add 1 [1]).add 2 [1] |>.close
    ((r.setChunkSize 1 0).reset.setChunkSize 1 2).c ≠ IntCoder.new 1 2 := by
  have h1 : putUvarint 1 = [1] := putUvarint_lt (by decide)
  simp [ReCoder.fresh, ReCoder.add, ReCoder.close, ReCoder.reset, ReCoder.setChunkSize,
    IntCoder.add, IntCoder.close, IntCoder.new, IntCoder.reset, putUvarints, h1]

end Zap.Codec
