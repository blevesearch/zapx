/-
  The chunk walk (`Writer.walkL`, twin of `Layout.walkChunks`) over a stream written by the chunked
  int coder returns one item per document, provided the item decoder inverts the per-document
  block encoder.
-/
import ZapProofs.Writer.Walk
import ZapProofs.Codec.ChunkTable

namespace Zap.Writer.Walk
open Zap.Codec

/-- What the walk needs to know about the table `offs` / data `data` of a stream whose
    chunks are `segs`. -/
structure Table (offs : List Nat) (data : Bytes) (segs : List Bytes) : Prop where
  hlen : offs.length = segs.length
  hbytes : ∀ k (h : k < segs.length), chunkBytes offs data k = segs[k]
  hstart : ∀ k, k < segs.length → cstart offs k = sumList ((segs.map List.length).take k)
  hstop : ∀ k, k < segs.length → cstop offs k = sumList ((segs.map List.length).take (k + 1))

theorem table_of_endOffsets (segs : List Bytes) (post : Bytes) :
    Table (endOffsets (segs.map List.length)) (segs.flatten ++ post) segs where
  hlen := by rw [endOffsets_length]; simp
  hstart := by
    intro k hk
    unfold cstart
    rw [chunkBoundary_endOffsets _ k (by simpa using hk)]
  hstop := by
    intro k hk
    unfold cstop
    rw [chunkBoundary_endOffsets _ k (by simpa using hk)]
  hbytes := by
    intro k hk
    unfold chunkBytes cstart cstop
    have hk' : k < (segs.map List.length).length := by simpa using hk
    rw [chunkBoundary_endOffsets _ k hk']
    simp only
    have h1 := sumList_take_mono (segs.map List.length) k (k + 1) (Nat.le_succ k)
    have h2 := sumList_take_le (segs.map List.length) (k + 1)
    rw [sumList_map_length_flatten] at h2
    rw [List.drop_append_of_le_length (Nat.le_trans h1 h2),
      List.take_append_of_le_length (by rw [List.length_drop]; exact Nat.sub_le_sub_right h2 _)]
    exact segment_extract segs k hk

section
variable {α β : Type}

def segOf (cs : Nat) (doc : β → Nat) (blk : β → Bytes) (l : List β) (k : Nat) : Bytes :=
  (chunkOf (fun x => doc x / cs) l k).flatMap blk

theorem segOf_cons_eq (cs : Nat) (doc : β → Nat) (blk : β → Bytes) (x : β) (l : List β) :
    segOf cs doc blk (x :: l) (doc x / cs) = blk x ++ segOf cs doc blk l (doc x / cs) := by
  simp [segOf, chunkOf]

theorem segOf_cons_ne (cs : Nat) (doc : β → Nat) (blk : β → Bytes) (x : β) (l : List β) (k : Nat)
    (h : doc x / cs ≠ k) : segOf cs doc blk (x :: l) k = segOf cs doc blk l k := by
  simp [segOf, chunkOf, h]

theorem segOf_eq_nil (cs : Nat) (doc : β → Nat) (blk : β → Bytes) (l : List β) (k : Nat)
    (h : ∀ x ∈ l, doc x / cs ≠ k) : segOf cs doc blk l k = [] := by
  rw [segOf, chunkOf_eq_nil _ l k h]
  rfl

theorem sumList_lengths_skip (segs : List Bytes) (i j : Nat) (hij : i < j) (hj : j ≤ segs.length)
    (hnil : ∀ k (h : k < segs.length), i < k → k < j → segs[k] = []) :
    sumList ((segs.map List.length).take j) = sumList ((segs.map List.length).take (i + 1)) := by
  apply sumList_take_skip _ (i + 1) j hij (by simpa using hj)
  intro k hk h1 h2
  rw [List.getElem_map, hnil k (by simpa using hk) h1 h2]
  rfl

theorem walkL_aux {offs : List Nat} {data : Bytes} {segs : List Bytes} (T : Table offs data segs)
    (cs : Nat) (doc : β → Nat) (blk : β → Bytes) (val : β → α)
    (dec : Nat → Bytes → Option (α × Bytes)) :
    ∀ (rest : List β) (ci : Nat) (cur : Bytes), ci < segs.length →
      (∀ x ∈ rest, ∀ r, dec (doc x) (blk x ++ r) = some (val x, r)) →
      rest.Pairwise (fun a b => doc a / cs ≤ doc b / cs) →
      (∀ x ∈ rest, ci ≤ doc x / cs ∧ doc x / cs < segs.length) →
      cur = segOf cs doc blk rest ci →
      (∀ k (h : k < segs.length), ci < k → segs[k] = segOf cs doc blk rest k) →
      walkL offs data cs dec (rest.map doc) ci cur = some (rest.map val) := by
  intro rest
  induction rest with
  | nil =>
    intro ci cur hci _ _ _ hcur hsegs
    have hpos : 0 < segs.length := Nat.zero_lt_of_lt hci
    simp only [List.map_nil, walkL]
    rw [if_pos]
    -- `segOf … [] k` is `[]` by computation
    refine ⟨hcur, Or.inr ?_⟩
    rw [T.hlen, T.hstop _ (Nat.sub_lt hpos Nat.one_pos), T.hstop _ hci, Nat.sub_add_cancel hpos]
    exact sumList_lengths_skip segs ci _ hci (Nat.le_refl _) fun k hk h1 _ => hsegs k hk h1
  | cons x rest ih =>
    intro ci cur hci hdec hmono hrange hcur hsegs
    have hpw := List.pairwise_cons.mp hmono
    obtain ⟨hge, hlt⟩ := hrange x (by simp)
    -- from the chunk of `x` on, with what is left of that chunk after `x`
    have key := ih (doc x / cs) _ hlt (fun y hy => hdec y (by simp [hy])) hpw.2
      (fun y hy => ⟨hpw.1 y hy, (hrange y (by simp [hy])).2⟩) rfl
      (fun k hk h1 => (hsegs k hk (Nat.lt_of_le_of_lt hge h1)).trans
        (segOf_cons_ne _ _ _ _ _ _ (Nat.ne_of_lt h1)))
    simp only [List.map_cons, walkL]
    rw [if_neg (by rw [T.hlen]; exact Nat.not_le.mpr hlt)]
    by_cases hc : doc x / cs = ci
    · rw [if_pos hc, hcur, ← hc, segOf_cons_eq, hdec x (by simp)]
      simp only
      rw [key]
      rfl
    · have hgt : ci < doc x / cs := Nat.lt_of_le_of_ne hge (Ne.symm hc)
      have hnil : ∀ k, k < doc x / cs → segOf cs doc blk (x :: rest) k = [] := by
        intro k hk
        apply segOf_eq_nil
        intro y hy
        rcases List.mem_cons.mp hy with rfl | hy
        · exact Nat.ne_of_gt hk
        · exact Nat.ne_of_gt (Nat.lt_of_lt_of_le hk (hpw.1 y hy))
      have hskip : cstart offs (doc x / cs) = cstop offs ci := by
        rw [T.hstart _ hlt, T.hstop _ hci]
        exact sumList_lengths_skip segs ci _ hgt (Nat.le_of_lt hlt) fun k hk h1 h2 =>
          (hsegs k hk h1).trans (hnil k h2)
      rw [if_neg hc, if_neg (not_or.mpr ⟨Nat.lt_asymm hgt, not_or.mpr
        ⟨not_not_intro (hcur.trans (hnil ci hgt)), not_not_intro hskip⟩⟩),
        T.hbytes _ hlt, hsegs _ hlt hgt, segOf_cons_eq, hdec x (by simp)]
      simp only
      rw [key]
      rfl

theorem walkL_roundtrip {offs : List Nat} {data : Bytes} {segs : List Bytes}
    (T : Table offs data segs) (cs : Nat) (doc : β → Nat) (blk : β → Bytes) (val : β → α)
    (dec : Nat → Bytes → Option (α × Bytes)) (xs : List β) (hn : 0 < segs.length)
    (hseg : ∀ k (h : k < segs.length), segs[k] = segOf cs doc blk xs k)
    (hdec : ∀ x ∈ xs, ∀ r, dec (doc x) (blk x ++ r) = some (val x, r))
    (hmono : xs.Pairwise (fun a b => doc a ≤ doc b))
    (hmax : ∀ x ∈ xs, doc x / cs < segs.length) :
    walkL offs data cs dec (xs.map doc) 0 (chunkBytes offs data 0) = some (xs.map val) := by
  apply walkL_aux T cs doc blk val dec xs 0 _ hn hdec
  · exact hmono.imp (fun h => Nat.div_le_div_right h)
  · exact fun x hx => ⟨Nat.zero_le _, hmax x hx⟩
  · rw [T.hbytes 0 hn, hseg 0 hn]
  · exact fun k hk _ => hseg k hk

end

end Zap.Writer.Walk
